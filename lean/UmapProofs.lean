import UmapProofs.Basic
import UmapProofs.GraphLemmas
import UmapProofs.InsertSort
import UmapProofs.GradLemmas
import UmapProofs.AssembleLemmas
import UmapProofs.SrcLemmas
import UmapProofs.SparseSrcSpec
import UmapProofs.SparseMerge
import UmapProofs.SparseSrcPack
import UmapProofs.SparseSrcLemmasS1
import UmapProofs.UmapSrcLemmas
import UmapProofs.C01SrcLemmas
import UmapProofs.Bracket
import UmapProofs.MetricsLemmas
