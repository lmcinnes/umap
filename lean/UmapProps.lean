import UmapProps.C01
import UmapProps.C02
import UmapProps.C19
import UmapProps.C20
import UmapProps.C10
import UmapProps.C07
import UmapProps.C12
import UmapProps.C09
import UmapProps.C15
import UmapProps.C19Procrustes
import UmapProps.C04
import UmapProps.C16
import UmapProps.C18
import UmapProps.C13
import UmapProps.C14
import UmapProps.C17
import UmapProps.C06
import UmapProps.C03
import UmapProps.C05
import UmapProps.C12Real
import UmapProps.C01Calibration
import UmapProps.C02Pipeline
import UmapProps.C07Clocks
import UmapProps.C07More
import UmapProps.C03Equivariance
import UmapProps.C17Radii
import UmapProps.C14More
import UmapProps.C12More
import UmapProps.C18More
import UmapProps.C03Scale
import UmapProps.C04Pipeline
import UmapProps.C07Schedule
import UmapProps.C05Unique
import UmapProps.C06Par
import UmapProps.UniqueIndexing
import UmapProps.C12SrcA
import UmapProps.C12SrcB
import UmapProps.C12SrcC
import UmapProps.C14SrcA
import UmapProps.C14SrcB
import UmapProps.C07Src
import UmapProps.C13SrcA
import UmapProps.C13SrcB
import UmapProps.C13SrcCore
import UmapProps.C13Src
import UmapProps.UmapSrcProofs
import UmapProps.C01Src
