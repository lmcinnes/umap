/-
  UmapProofs.SparseSrcLemmasS1 — lemmas for the source tie of umap/sparse.py (`UmapProps/C13SrcCore.lean`,
  `C13SrcB.lean`), in three sections:
  (A) the model's `unionSize` as a cardinality (the model's `merge` itself: `SparseMerge.lean`);
  (B) the sort-based index-array helpers `arrUnique / arrUnion / arrIntersect`;
  (C) the rule for the translator's fuel-bounded `while` (`whileN_rule`: invariant and variant), by it the merge
      loops (`MergeLoop`: what makes a translated loop one) as folds over the model's merge, and stores into buffers.
-/
import UmapProofs.SparseSrcSpec
import UmapProofs.SparseMerge
import Mathlib.Data.Finset.Card

namespace Umap
namespace SparseSrcLemmasS1
open Sparse

section A
variable {α : Type}

theorem cell_length_le (i : Nat) (o : Option α) : (cell i o).length ≤ 1 := by
  cases o <;> simp [cell]

theorem merge_sorted (f : α → α → Option α) (g1 g2 : α → Option α) (x y : SVec α)
    (hx : (x.map (·.1)).Pairwise (· < ·)) (hy : (y.map (·.1)).Pairwise (· < ·)) :
    ((merge f g1 g2 x y).map (·.1)).Pairwise (· < ·) :=
  C13.merge_sorted f g1 g2 x y hx hy

theorem unionSize_eq_card [OfNat α 1] (x y : SVec α) (hx : C13.Sorted x) (hy : C13.Sorted y) :
    unionSize x y = ((x.map (·.1)).toFinset ∪ (y.map (·.1)).toFinset).card := by
  unfold unionSize
  have hnd := (C13.merge_sorted (fun _ _ => some (1 : α)) (fun _ => some 1) (fun _ => some 1) x y hx hy).imp
    (fun h => Nat.ne_of_lt h)
  rw [← List.length_map (·.1), ← List.toFinset_card_of_nodup hnd]
  congr 1
  ext k
  simp only [List.mem_toFinset, Finset.mem_union]
  exact C13.mem_merge_total _ _ _ (fun _ _ => rfl) (fun _ => rfl) (fun _ => rfl) x y hx hy k

end A

section B
open SrcSparse

theorem sortN_perm (l : List Nat) : (sortN l).Perm l := List.mergeSort_perm l _

theorem sortN_sorted (l : List Nat) : (sortN l).Pairwise (· ≤ ·) := by
  have h := List.pairwise_mergeSort (le := fun (a b : Nat) => decide (a ≤ b))
    (fun a b c hab hbc => decide_eq_true (Nat.le_trans (of_decide_eq_true hab) (of_decide_eq_true hbc)))
    (fun a b => by rcases Nat.le_total a b with h | h <;> simp [h]) l
  exact h.imp (fun h => of_decide_eq_true h)

/-- number of adjacent unequal pairs of `a :: t` -/
def neqCount : Nat → List Nat → Nat
  | _, [] => 0
  | a, b :: t => (if b = a then 0 else 1) + neqCount b t

/-- the left elements of the adjacent equal pairs of `a :: t` -/
def adjEq : Nat → List Nat → List Nat
  | _, [] => []
  | a, b :: t => (if b = a then [a] else []) ++ adjEq b t

theorem maskSel_nil_left {β : Type} (f : List Bool) : maskSel ([] : List β) f = [] := by
  simp [maskSel]

theorem maskSel_nil_right {β : Type} (a : List β) : maskSel a [] = [] := by
  simp [maskSel]

theorem maskSel_cons {β : Type} (a : β) (t : List β) (b : Bool) (f : List Bool) :
    maskSel (a :: t) (b :: f) = (if b then [a] else []) ++ maskSel t f := by
  cases b <;> simp [maskSel]

theorem uniq_mask_length (a : Nat) (t : List Nat) :
    (maskSel t (List.zipWith (fun x y => x != y) t (a :: t).dropLast)).length = neqCount a t := by
  induction t generalizing a with
  | nil => rfl
  | cons b t ih =>
    rw [List.dropLast_cons_cons, List.zipWith_cons_cons, maskSel_cons, List.length_append, ih b, neqCount]
    by_cases h : b = a <;> simp [h]

theorem inter_mask (a : Nat) (t : List Nat) :
    maskSel (a :: t).dropLast (List.zipWith (fun x y => x == y) t (a :: t).dropLast) = adjEq a t := by
  induction t generalizing a with
  | nil => rfl
  | cons b t ih =>
    rw [List.dropLast_cons_cons, List.zipWith_cons_cons, maskSel_cons, ih b, adjEq]
    by_cases h : b = a <;> simp [h]

theorem neqCount_add_adjEq (a : Nat) (t : List Nat) : neqCount a t + (adjEq a t).length = t.length := by
  induction t generalizing a with
  | nil => rfl
  | cons b t ih =>
    rw [neqCount, adjEq, List.length_append, List.length_cons, ← ih b]
    split
    · simp only [List.length_singleton, Nat.zero_add, Nat.add_assoc, Nat.add_comm]
    · simp only [List.length_nil, Nat.zero_add, Nat.add_comm, Nat.add_left_comm]

theorem mem_tail_iff {a b : Nat} {t : List Nat} (hs : (a :: b :: t).Pairwise (· ≤ ·)) :
    a ∈ b :: t ↔ b = a := by
  obtain ⟨hab, hs'⟩ := List.pairwise_cons.mp hs
  refine ⟨fun hm => ?_, fun e => e ▸ List.mem_cons_self⟩
  rcases List.mem_cons.mp hm with e | hm
  · exact e.symm
  · exact le_antisymm ((List.pairwise_cons.mp hs').1 a hm) (hab b List.mem_cons_self)

theorem neqCount_card (a : Nat) (t : List Nat) (hs : (a :: t).Pairwise (· ≤ ·)) :
    1 + neqCount a t = (a :: t).toFinset.card := by
  induction t generalizing a with
  | nil => rfl
  | cons b t ih =>
    have ih' := ih b (List.pairwise_cons.mp hs).2
    rw [List.toFinset_cons (a := a), neqCount]
    by_cases h : b = a
    · rw [if_pos h, Finset.insert_eq_of_mem (List.mem_toFinset.2 ((mem_tail_iff hs).2 h)), Nat.zero_add]
      exact ih'
    · rw [if_neg h, Finset.card_insert_of_notMem (fun hm => h ((mem_tail_iff hs).1 (List.mem_toFinset.1 hm))),
        ← ih']
      exact Nat.add_comm _ _

theorem mem_adjEq (a : Nat) (t : List Nat) (hs : (a :: t).Pairwise (· ≤ ·)) (k : Nat) :
    k ∈ adjEq a t ↔ 2 ≤ (a :: t).count k := by
  induction t generalizing a with
  | nil => simp only [adjEq, List.not_mem_nil, List.count_singleton, false_iff]; split <;> decide
  | cons b t ih =>
    have hb : 1 ≤ (b :: t).count a ↔ b = a := List.one_le_count_iff.trans (mem_tail_iff hs)
    rw [adjEq, List.mem_append, ih b (List.pairwise_cons.mp hs).2, List.count_cons (b := a)]
    by_cases hka : a = k
    · subst hka
      rw [beq_self_eq_true, if_pos rfl]
      by_cases hba : b = a
      · rw [if_pos hba]
        simp only [List.mem_singleton, true_or, true_iff]
        exact Nat.succ_le_succ (hb.2 hba)
      · rw [if_neg hba, Nat.eq_zero_of_not_pos (mt hb.1 hba)]
        simp only [List.not_mem_nil, false_or]
        decide
    · have : k ∉ (if b = a then [a] else []) := by
        split
        · exact fun h => hka (List.mem_singleton.1 h).symm
        · exact List.not_mem_nil
      simp only [this, false_or, beq_iff_eq, hka, if_false, Nat.add_zero]

/-- `arr_unique` keeps the head of the sorted array and every element that differs from its predecessor -/
theorem arrUnique_length_eq (l : List Nat) :
    (arrUnique l).length = match sortN l with | [] => 0 | a :: t => 1 + neqCount a t := by
  unfold arrUnique
  simp only []
  generalize sortN l = aux
  cases aux with
  | nil => rfl
  | cons a t =>
    simp only [List.replicate_one, List.singleton_append, List.drop_one, List.tail_cons, maskSel_cons, if_true,
      List.length_cons, uniq_mask_length]
    exact Nat.add_comm _ _

/-- `arr_intersect` keeps the elements of the sorted concatenation that equal their successor -/
theorem arrIntersect_eq (l1 l2 : List Nat) :
    arrIntersect l1 l2 = match sortN (l1 ++ l2) with | [] => [] | a :: t => adjEq a t := by
  unfold arrIntersect
  simp only []
  generalize sortN (l1 ++ l2) = aux
  cases aux with
  | nil => rfl
  | cons a t => simp only [List.drop_one, List.tail_cons, inter_mask]

theorem arrUnique_length (l : List Nat) : (arrUnique l).length = l.toFinset.card := by
  have hsort := sortN_sorted l
  rw [arrUnique_length_eq, ← List.toFinset_eq_of_perm _ _ (sortN_perm l)]
  generalize sortN l = aux at hsort
  cases aux with
  | nil => rfl
  | cons a t => exact neqCount_card a t hsort

theorem arrIntersect_length_add (l1 l2 : List Nat) :
    (arrIntersect l1 l2).length + (arrUnique (l1 ++ l2)).length = l1.length + l2.length := by
  have hlen := (sortN_perm (l1 ++ l2)).length_eq
  rw [List.length_append] at hlen
  rw [arrIntersect_eq, arrUnique_length_eq]
  generalize sortN (l1 ++ l2) = aux at hlen
  cases aux with
  | nil => exact hlen
  | cons a t =>
    rw [← hlen, List.length_cons, ← neqCount_add_adjEq a t]
    show (adjEq a t).length + (1 + neqCount a t) = _
    simp only [Nat.add_comm, Nat.add_left_comm]

theorem arrUnion_length (l1 l2 : List Nat) (h1 : l1.Nodup) (h2 : l2.Nodup) :
    (arrUnion l1 l2).length = (l1.toFinset ∪ l2.toFinset).card := by
  cases l1 with
  | nil => rw [List.toFinset_nil, Finset.empty_union, List.toFinset_card_of_nodup h2]; rfl
  | cons a l1 =>
    cases l2 with
    | nil => rw [List.toFinset_nil, Finset.union_empty, List.toFinset_card_of_nodup h1]; rfl
    | cons b l2 => exact (arrUnique_length _).trans (congrArg _ (List.toFinset_append ..))

/-- `arr_intersect` keeps what occurs at least twice in the concatenation (any two arrays) -/
theorem mem_arrIntersect_iff_count (l1 l2 : List Nat) (k : Nat) :
    k ∈ arrIntersect l1 l2 ↔ 2 ≤ (l1 ++ l2).count k := by
  have hsort := sortN_sorted (l1 ++ l2)
  rw [arrIntersect_eq, ← (sortN_perm (l1 ++ l2)).count_eq k]
  generalize sortN (l1 ++ l2) = aux at hsort
  cases aux with
  | nil => exact iff_of_false List.not_mem_nil (Nat.not_succ_le_zero 1)
  | cons a t => exact mem_adjEq a t hsort k

theorem mem_arrIntersect (l1 l2 : List Nat) (h1 : l1.Nodup) (h2 : l2.Nodup) (k : Nat) :
    k ∈ arrIntersect l1 l2 ↔ k ∈ l1 ∧ k ∈ l2 := by
  have c1 := List.nodup_iff_count_le_one.1 h1 k
  have c2 := List.nodup_iff_count_le_one.1 h2 k
  rw [mem_arrIntersect_iff_count, List.count_append, ← List.one_le_count_iff (l := l1),
    ← List.one_le_count_iff (l := l2)]
  omega

end B


/-! To tie a translated two-pointer loop: `whileN_merge` (or `whileN_merge_inner`), with `cond` and `body` left to
unification against the loop result `hs`, and a `MergeLoop` whose field `guard` is `rfl` and whose three branch
facts go by `rw [if_pos …]` on the translated index test followed by a case split on what is stored.
`C13SrcCore.sparseSum_src` is the pattern with buffers and tail loops, `C13SrcB.sparseLlDirichlet_src_of_length`
the one with a plain accumulator. -/
section C
open SrcSparse
variable {α : Type}

/-- what a one-sided tail loop emits -/
def tailL (g : α → Option α) (z : SVec α) : SVec α := z.flatMap (fun p => cell p.1 (g p.2))

theorem tailL_cons (g : α → Option α) (j : Nat) (b : α) (u : SVec α) :
    tailL g ((j, b) :: u) = cell j (g b) ++ tailL g u := rfl

theorem tailL_none (z : SVec α) : tailL (fun _ => none) z = [] := by
  induction z with
  | nil => rfl
  | cons p u ih => exact ih

theorem merge_left_nil (f : α → α → Option α) (g1 g2 : α → Option α) (z : SVec α) :
    merge f g1 g2 [] z = tailL g2 z := by
  induction z with
  | nil => exact C13.merge_nil_nil ..
  | cons p u ih => rw [C13.merge_nil_cons, ih, tailL_cons]

theorem merge_exhausted (f : α → α → Option α) (g1 g2 : α → Option α) (x y : SVec α)
    (h : x = [] ∨ y = []) : merge f g1 g2 x y = tailL g1 x ++ tailL g2 y := by
  rcases h with rfl | rfl
  · exact merge_left_nil ..
  · rw [C13.merge_swap, merge_left_nil]
    exact (List.append_nil _).symm

theorem drop_zip_cons {β : Type} (ind : List Nat) (data : List β) (d0 : β) (h : ind.length = data.length)
    (a : Nat) (ha : a < ind.length) :
    (ind.zip data).drop a = (ind.getD a 0, data.getD a d0) :: (ind.zip data).drop (a + 1) := by
  have hz : a < (ind.zip data).length := by rw [List.length_zip, ← h, Nat.min_self]; exact ha
  rw [List.drop_eq_getElem_cons hz, List.getElem_zip, List.getElem_eq_getD 0, List.getElem_eq_getD d0]

theorem drop_zip_nil {β : Type} (ind : List Nat) (data : List β) (a : Nat) (h : ind.length ≤ a) :
    (ind.zip data).drop a = [] :=
  List.drop_eq_nil_of_le (by rw [List.length_zip]; exact Nat.le_trans (Nat.min_le_left _ _) h)

/-- The rule for the translator's fuel-bounded `while`: the body keeps an invariant `I` and decreases a variant `m`
    as long as the condition holds; with more fuel than the variant, the loop ends in a state where `I` holds and
    the condition fails (the fuel did not run out). -/
theorem whileN_rule {σ : Type} (cond : σ → Bool) (body : σ → σ) (I : σ → Prop) (m : σ → Nat)
    (step : ∀ s, I s → cond s = true → I (body s) ∧ m (body s) < m s)
    (fuel : Nat) (s : σ) (hI : I s) (hf : m s < fuel) :
    I (whileN fuel cond body s) ∧ cond (whileN fuel cond body s) = false := by
  induction fuel generalizing s with
  | zero => exact absurd hf (Nat.not_lt_zero _)
  | succ fuel ih =>
    rw [whileN]
    by_cases hc : cond s = true
    · rw [if_pos hc]
      exact ih _ (step s hI hc).1 (Nat.lt_of_lt_of_le (step s hI hc).2 (Nat.le_of_lt_succ hf))
    · rw [if_neg hc]
      exact ⟨hI, Bool.not_eq_true _ ▸ hc⟩

/-- `cond` and `body` are a two-pointer loop over the rows `(i1, d1)` and `(i2, d2)` in the state (pointer into
    row 1, pointer into row 2, accumulator): it runs while both pointers are inside (`guard`), and on each of the
    three outcomes of comparing the indices under the pointers (`eq`, `lt`, `gt`) the body advances as the model's
    `merge` does and hands the cell that `merge f g1 g2` emits there to `push` (`sparse_sum`, `sparse_mul`: a store
    into the output buffers; `sparse_ll_dirichlet`: an addition).  `z` is the default of the translated `d[i]`. -/
structure MergeLoop {β : Type} (i1 : List Nat) (d1 : List α) (i2 : List Nat) (d2 : List α) (z : α)
    (f : α → α → Option α) (g1 g2 : α → Option α) (push : β → Nat × α → β)
    (cond : Nat × Nat × β → Bool) (body : Nat × Nat × β → Nat × Nat × β) : Prop where
  guard : ∀ s, cond s = (decide (s.1 < i1.length) && decide (s.2.1 < i2.length))
  eq : ∀ s, i1.getD s.1 0 = i2.getD s.2.1 0 → body s =
    (s.1 + 1, s.2.1 + 1, (cell (i1.getD s.1 0) (f (d1.getD s.1 z) (d2.getD s.2.1 z))).foldl push s.2.2)
  lt : ∀ s, ¬ i1.getD s.1 0 = i2.getD s.2.1 0 → i1.getD s.1 0 < i2.getD s.2.1 0 → body s =
    (s.1 + 1, s.2.1, (cell (i1.getD s.1 0) (g1 (d1.getD s.1 z))).foldl push s.2.2)
  gt : ∀ s, ¬ i1.getD s.1 0 = i2.getD s.2.1 0 → ¬ i1.getD s.1 0 < i2.getD s.2.1 0 → body s =
    (s.1, s.2.1 + 1, (cell (i2.getD s.2.1 0) (g2 (d2.getD s.2.1 z))).foldl push s.2.2)

/-- Running the two one-sided tails after a two-pointer loop has stopped in `r` gives the fold of `push` over the
    model's whole merge.  Neither sortedness nor room in a buffer is needed; fuel suffices because
    `(len1 - a) + (len2 - b)` decreases. -/
theorem whileN_merge {β : Type} (i1 : List Nat) (d1 : List α) (i2 : List Nat) (d2 : List α) (z : α)
    (f : α → α → Option α) (g1 g2 : α → Option α) (push : β → Nat × α → β)
    (hl1 : i1.length = d1.length) (hl2 : i2.length = d2.length) {cond : Nat × Nat × β → Bool}
    {body : Nat × Nat × β → Nat × Nat × β} (hb : MergeLoop i1 d1 i2 d2 z f g1 g2 push cond body)
    (fuel a b : Nat) (acc : β) {r : Nat × Nat × β}
    (hs : whileN fuel cond body (a, b, acc) = r) (hf : (i1.length - a) + (i2.length - b) < fuel) :
    (tailL g2 ((i2.zip d2).drop r.2.1)).foldl push ((tailL g1 ((i1.zip d1).drop r.1)).foldl push r.2.2)
      = (merge f g1 g2 ((i1.zip d1).drop a) ((i2.zip d2).drop b)).foldl push acc := by
  -- invariant: folding what is still to be merged onto what has been accumulated gives the whole fold
  have key := whileN_rule cond body
    (fun s => (merge f g1 g2 ((i1.zip d1).drop s.1) ((i2.zip d2).drop s.2.1)).foldl push s.2.2
      = (merge f g1 g2 ((i1.zip d1).drop a) ((i2.zip d2).drop b)).foldl push acc)
    (fun s => (i1.length - s.1) + (i2.length - s.2.1)) ?step fuel (a, b, acc) rfl hf
  case step =>
    intro s hI hcs
    rw [hb.guard, Bool.and_eq_true, decide_eq_true_eq, decide_eq_true_eq] at hcs
    have hx := drop_zip_cons i1 d1 z hl1 s.1 hcs.1
    have hy := drop_zip_cons i2 d2 z hl2 s.2.1 hcs.2
    -- one of the two differences gets smaller, the other does not grow
    have ha1 := Nat.sub_succ_lt_self _ _ hcs.1
    have hb1 := Nat.sub_succ_lt_self _ _ hcs.2
    rw [hx, hy, C13.merge_cons_cons] at hI
    by_cases e : i1.getD s.1 0 = i2.getD s.2.1 0
    · rw [if_pos e, List.foldl_append] at hI
      rw [hb.eq s e]
      exact ⟨hI, Nat.add_lt_add ha1 hb1⟩
    · rw [if_neg e] at hI
      by_cases e' : i1.getD s.1 0 < i2.getD s.2.1 0
      · rw [if_pos e', List.foldl_append, ← hy] at hI
        rw [hb.lt s e e']
        exact ⟨hI, Nat.add_lt_add_right ha1 _⟩
      · rw [if_neg e', List.foldl_append, ← hx] at hI
        rw [hb.gt s e e']
        exact ⟨hI, Nat.add_lt_add_left hb1 _⟩
  -- at the exit one row is used up, and the merge of the rest is the two tails
  obtain ⟨hI, hx⟩ := hs ▸ key
  rw [hb.guard, Bool.and_eq_false_iff, decide_eq_false_iff_not, decide_eq_false_iff_not, Nat.not_lt, Nat.not_lt] at hx
  rw [← hI, merge_exhausted _ _ _ _ _ (hx.imp (drop_zip_nil _ _ _) (drop_zip_nil _ _ _)), List.foldl_append]

/-- … and a loop that emits on common indices only (`sparse_mul`, `sparse_ll_dirichlet`) needs no tails -/
theorem whileN_merge_inner {β : Type} (i1 : List Nat) (d1 : List α) (i2 : List Nat) (d2 : List α) (z : α)
    (f : α → α → Option α) (push : β → Nat × α → β)
    (hl1 : i1.length = d1.length) (hl2 : i2.length = d2.length) {cond : Nat × Nat × β → Bool}
    {body : Nat × Nat × β → Nat × Nat × β}
    (hb : MergeLoop i1 d1 i2 d2 z f (fun _ => none) (fun _ => none) push cond body)
    (fuel a b : Nat) (acc : β) {r : Nat × Nat × β}
    (hs : whileN fuel cond body (a, b, acc) = r) (hf : (i1.length - a) + (i2.length - b) < fuel) :
    r.2.2 = (merge f (fun _ => none) (fun _ => none) ((i1.zip d1).drop a) ((i2.zip d2).drop b)).foldl push acc := by
  have := whileN_merge i1 d1 i2 d2 z f _ _ push hl1 hl2 hb fuel a b acc hs hf
  rwa [tailL_none, tailL_none] at this

/-- a one-sided tail loop of `sparse_sum`; its state is the accumulator triple followed by the pointer -/
theorem whileN_tail {A B C : Type} (ind : List Nat) (data : List α) (z : α) (g : α → Option α)
    (push : A × B × C → Nat × α → A × B × C) (hl : ind.length = data.length)
    {cond : A × B × C × Nat → Bool} {body : A × B × C × Nat → A × B × C × Nat}
    (hc : ∀ s, cond s = decide (s.2.2.2 < ind.length))
    (hb : ∀ s, body s = (fun r : A × B × C => (r.1, r.2.1, r.2.2, s.2.2.2 + 1))
      ((cell (ind.getD s.2.2.2 0) (g (data.getD s.2.2.2 z))).foldl push (s.1, s.2.1, s.2.2.1)))
    (fuel : Nat) (s : A × B × C × Nat) {r : A × B × C × Nat} (hs : whileN fuel cond body s = r)
    (hf : ind.length - s.2.2.2 < fuel) :
    (r.1, r.2.1, r.2.2.1) = (tailL g ((ind.zip data).drop s.2.2.2)).foldl push (s.1, s.2.1, s.2.2.1) := by
  have key := whileN_rule cond body
    (fun t => (tailL g ((ind.zip data).drop t.2.2.2)).foldl push (t.1, t.2.1, t.2.2.1)
      = (tailL g ((ind.zip data).drop s.2.2.2)).foldl push (s.1, s.2.1, s.2.2.1))
    (fun t => ind.length - t.2.2.2) ?step fuel s rfl hf
  case step =>
    intro t hI hct
    rw [hc, decide_eq_true_eq] at hct
    rw [drop_zip_cons ind data z hl _ hct, tailL_cons, List.foldl_append] at hI
    rw [hb]
    exact ⟨hI, Nat.sub_succ_lt_self _ _ hct⟩
  obtain ⟨hI, hx⟩ := hs ▸ key
  rw [hc, decide_eq_false_iff_not, Nat.not_lt] at hx
  rw [← hI, drop_zip_nil _ _ _ hx]
  rfl

/-- the store `result_ind[nnz] = j; result_data[nnz] = v; nnz += 1` on (index buffer, value buffer, fill count) -/
def store (s : List Nat × List α × Nat) (p : Nat × α) : List Nat × List α × Nat :=
  (s.1.set s.2.2 p.1, s.2.1.set s.2.2 p.2, s.2.2 + 1)

theorem take_set_succ {β : Type} (l : List β) (n : Nat) (v : β) (h : n < l.length) :
    (l.set n v).take (n + 1) = l.take n ++ [v] := by
  rw [List.take_add_one, List.take_set_of_le (Nat.le_refl n)]
  simp [h]

set_option linter.unusedVariables false in -- `q`, `hp`
theorem take_of_take_succ {β : Type} (l l' : List β) (n m : Nat) (p q : List β)
    (h : l'.take (n + m) = l.take n ++ p) (hn : n ≤ l.length) (hp : p.length = m) :
    l'.take n = l.take n := by
  have := congrArg (List.take n) h
  rw [List.take_take, Nat.min_eq_left (Nat.le_add_right n m)] at this
  rw [this, List.take_append_of_le_length (by rw [List.length_take, Nat.min_eq_left hn]), List.take_take,
    Nat.min_self]

theorem foldl_store (l : SVec α) (ri : List Nat) (rd : List α) (nnz : Nat)
    (h1 : nnz + l.length ≤ ri.length) (h2 : nnz + l.length ≤ rd.length) :
    (l.foldl store (ri, rd, nnz)).2.2 = nnz + l.length ∧
    (l.foldl store (ri, rd, nnz)).1.take (nnz + l.length) = ri.take nnz ++ l.map (·.1) ∧
    (l.foldl store (ri, rd, nnz)).2.1.take (nnz + l.length) = rd.take nnz ++ l.map (·.2) := by
  induction l generalizing ri rd nnz with
  | nil => exact ⟨rfl, (List.append_nil _).symm, (List.append_nil _).symm⟩
  | cons p l ih =>
    have e : nnz + (l.length + 1) = nnz + 1 + l.length := (Nat.add_right_comm nnz 1 l.length).symm
    have hlt : nnz < nnz + (l.length + 1) := Nat.lt_add_of_pos_right (Nat.succ_pos _)
    have := ih (ri.set nnz p.1) (rd.set nnz p.2) (nnz + 1) (by rw [List.length_set, ← e]; exact h1)
      (by rw [List.length_set, ← e]; exact h2)
    rw [take_set_succ _ _ _ (Nat.lt_of_lt_of_le hlt h1), take_set_succ _ _ _ (Nat.lt_of_lt_of_le hlt h2),
      List.append_assoc, List.append_assoc] at this
    rw [List.foldl_cons, List.length_cons, e]
    exact this

/-- buffers that are long enough hold, up to the fill count, exactly what was stored -/
theorem foldl_store_unpack {l : SVec α} {ri : List Nat} {rd : List α} {r : List Nat × List α × Nat}
    (h1 : l.length ≤ ri.length) (h2 : ri.length = rd.length) (hr : r = l.foldl store (ri, rd, 0)) :
    (r.1.take r.2.2, r.2.1.take r.2.2) = SparseSrcSpec.unpack l := by
  rw [← Nat.zero_add l.length] at h1
  obtain ⟨e, e1, e2⟩ := foldl_store l ri rd 0 h1 (h2 ▸ h1)
  rw [hr, e, e1, e2]
  rfl

end C

end SparseSrcLemmasS1
end Umap
