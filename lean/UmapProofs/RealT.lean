/-
  UmapProofs.RealT — the real-number instance of `Transc` used by the theorems.
-/
import Mathlib.Analysis.SpecialFunctions.Pow.Real
import Mathlib.Analysis.SpecialFunctions.Arcosh
import Mathlib.Analysis.SpecialFunctions.Trigonometric.Inverse
import Mathlib.Analysis.Real.Sqrt
import Mathlib.Algebra.Order.Floor.Ring
import UmapModel.Scalar

namespace Umap

/-- the transcendental functions over ℝ. -/
noncomputable def realT : Transc ℝ where
  exp := Real.exp
  log := Real.log
  sqrt := Real.sqrt
  pow := fun x y => x ^ y
  sin := Real.sin
  cos := Real.cos
  asin := Real.arcsin
  acosh := Real.arcosh
  trunc := fun x => if 0 ≤ x then ⌊x⌋ else ⌈x⌉
  ofInt := fun z => (z : ℝ)

/-- `int(x)` over ℝ for `x ≥ 0` is the natural floor. -/
theorem realT_trunc_of_nonneg {x : ℝ} (hx : 0 ≤ x) : realT.trunc x = (⌊x⌋₊ : ℤ) :=
  (if_pos hx).trans (Int.natCast_floor_eq_floor hx).symm

/-- clamping a radicand at `0` does not change its real square root (both sides are `0` for a
    non-positive radicand): `np.sqrt(max(a, 0.0))` and `np.sqrt(a)` agree over ℝ. -/
theorem sqrt_maxV_zero (a : ℝ) : Real.sqrt (maxV 0 a) = Real.sqrt a := by
  unfold maxV
  split_ifs with h
  · rfl
  · rw [Real.sqrt_zero, Real.sqrt_eq_zero_of_nonpos (not_lt.1 h)]

end Umap
