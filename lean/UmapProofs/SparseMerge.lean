/-
  UmapProofs.SparseMerge — the three-way `merge` of `Umap.Sparse` (umap/sparse.py: `sparse_sum`,
  `sparse_mul`, `arr_union`, `arr_intersect`), over an arbitrary value type.  No Mathlib.

  `merge` is defined by well-founded recursion.  Whatever the cell functions, a step compares the
  heads of the two rows, an exhausted row counting as a head beyond every index, and prepends a
  `cell`: `merge_eq`, `merge_lt`, `merge_gt`.  `merge_induct` is the induction along a run in
  these terms (three step cases instead of the five of `merge.induct`), and the proofs here use it
  and rewrite with the three equations.  What a merge *means* is `look_merge`: on rows with strictly
  increasing indices (`Sorted`) the entry stored at index `k` is decided by the entries the two
  rows store at `k`.  Everything about values, sums and counts downstream (UmapProps/C13) rests on
  that.  Without sortedness a merge still only emits what its inputs hold (`mem_merge`,
  `merge_index_bound`, `merge_forall_snd`), and its size obeys `merge_length_le` (no merge is
  longer than the union: `length_merge_le_unionSize`), the bounds `interSize_le_left` / `_right`
  and inclusion–exclusion (`interSize_add_unionSize`); sortedness is needed for `look_merge`, for
  `merge_sorted` / `Row.merge` (the result is again a row of the same width) and for
  `mem_merge_total`.
  (The size of a row or a merge read off position by position, `length_eq_countP` /
  `length_merge`, and sums over a merge need `Finset` sums and are in UmapProps/C13.)
-/
import UmapModel.Sparse

namespace Umap
namespace SparseSrcLemmasS1
open Sparse

section A
variable {α : Type}

/-- what one step of `merge` prepends at index `i`: the entry `(i, v)` when the cell function
    answered `some v`, nothing when it answered `none` (a result that is exactly zero is dropped).
    It keeps the namespace of UmapProofs/SparseSrcLemmasS1, whose statements about the loops of
    sparse.py are written with it; everything else in this file is `Umap.C13.*`. -/
def cell (i : Nat) (o : Option α) : SVec α := match o with | some v => [(i, v)] | none => []

end A
end SparseSrcLemmasS1

namespace C13
open Sparse SparseSrcLemmasS1

/-- strictly increasing indices: a CSR row with sorted indices and no duplicates (scipy's
    `has_canonical_format`), which is what umap/sparse.py assumes of its arguments. -/
def Sorted {α : Type} (x : SVec α) : Prop := (x.map (·.1)).Pairwise (· < ·)

instance {α : Type} (x : SVec α) : Decidable (Sorted x) := by unfold Sorted; infer_instance

/-- the stored entry at index `i`, if any. -/
def look {α : Type} (x : SVec α) (i : Nat) : Option α := (x.find? (·.1 == i)).map (·.2)

/-- a CSR row of a matrix with `n` columns: strictly increasing indices, all `< n`.  (Not to be
    confused with `C13.Canonical`, sorted and no stored zero, nor with `SparseSrcSpec.Canon`, the
    condition on the two arrays `indices` / `data` of the source.) -/
def Row {α : Type} (n : Nat) (x : SVec α) : Prop := Sorted x ∧ ∀ p ∈ x, p.1 < n

section generic
variable {α : Type}

theorem length_cell (i : Nat) (o : Option α) : (cell i o).length = if o.isSome then 1 else 0 := by
  cases o <;> rfl

theorem mem_cell {i : Nat} {o : Option α} {p : Nat × α} (h : p ∈ cell i o) :
    p.1 = i ∧ o = some p.2 := by
  cases o with
  | none => simp [cell] at h
  | some v => simp [cell] at h; subst h; simp

section equations
variable (f : α → α → Option α) (g1 g2 : α → Option α)

theorem merge_nil_nil : merge f g1 g2 [] [] = [] := by rw [merge]

theorem merge_cons_nil (i : Nat) (a : α) (t : SVec α) :
    merge f g1 g2 ((i, a) :: t) [] = cell i (g1 a) ++ merge f g1 g2 t [] := by rw [merge]; rfl

theorem merge_nil_cons (j : Nat) (b : α) (u : SVec α) :
    merge f g1 g2 [] ((j, b) :: u) = cell j (g2 b) ++ merge f g1 g2 [] u := by rw [merge]; rfl

theorem merge_cons_cons (i : Nat) (a : α) (t : SVec α) (j : Nat) (b : α) (u : SVec α) :
    merge f g1 g2 ((i, a) :: t) ((j, b) :: u) =
      if i = j then cell i (f a b) ++ merge f g1 g2 t u
      else if i < j then cell i (g1 a) ++ merge f g1 g2 t ((j, b) :: u)
      else cell j (g2 b) ++ merge f g1 g2 ((i, a) :: t) u := by rw [merge]; rfl

theorem merge_eq (i : Nat) (a b : α) (t u : SVec α) :
    merge f g1 g2 ((i, a) :: t) ((i, b) :: u) = cell i (f a b) ++ merge f g1 g2 t u := by
  rw [merge_cons_cons, if_pos rfl]

theorem merge_lt {i : Nat} {y : SVec α} (h : ∀ q ∈ y.head?, i < q.1) (a : α) (t : SVec α) :
    merge f g1 g2 ((i, a) :: t) y = cell i (g1 a) ++ merge f g1 g2 t y := by
  match y with
  | [] => exact merge_cons_nil f g1 g2 i a t
  | (j, b) :: u =>
    have hij : i < j := h (j, b) rfl
    rw [merge_cons_cons, if_neg (Nat.ne_of_lt hij), if_pos hij]

theorem merge_gt {j : Nat} {x : SVec α} (h : ∀ q ∈ x.head?, j < q.1) (b : α) (u : SVec α) :
    merge f g1 g2 x ((j, b) :: u) = cell j (g2 b) ++ merge f g1 g2 x u := by
  match x with
  | [] => exact merge_nil_cons f g1 g2 j b u
  | (i, a) :: t =>
    have hji : j < i := h (i, a) rfl
    rw [merge_cons_cons, if_neg (Nat.ne_of_gt hji), if_neg (Nat.lt_asymm hji)]

end equations

/-- induction along a run of `merge`, by the outcome of comparing the heads (`y.head?` is empty
    when `y` is: the cases `… []` and `… < …` of `merge.induct` in one). -/
theorem merge_induct {P : SVec α → SVec α → Prop} (nil : P [] [])
    (eq : ∀ i a b t u, P t u → P ((i, a) :: t) ((i, b) :: u))
    (lt : ∀ i a t y, (∀ q ∈ y.head?, i < q.1) → P t y → P ((i, a) :: t) y)
    (gt : ∀ j b x u, (∀ q ∈ x.head?, j < q.1) → P x u → P x ((j, b) :: u))
    (x y : SVec α) : P x y := by
  induction x, y using merge.induct with
  | case1 => exact nil
  | case2 i a t ih => exact lt i a t [] (fun _ h => nomatch h) ih
  | case3 j b u ih => exact gt j b [] u (fun _ h => nomatch h) ih
  | case4 a t i b u ih => exact eq i a b t u ih
  | case5 i a t j b u _ hlt ih =>
    exact lt i a t _ (fun q h => Option.some.inj h ▸ hlt) ih
  | case6 i a t j b u hne hlt ih =>
    have hji : j < i := Nat.lt_of_le_of_ne (Nat.le_of_not_lt hlt) (Ne.symm hne)
    exact gt j b _ u (fun q h => Option.some.inj h ▸ hji) ih

@[simp] theorem look_nil (k : Nat) : look ([] : SVec α) k = none := rfl

theorem look_cons (i : Nat) (a : α) (t : SVec α) (k : Nat) :
    look ((i, a) :: t) k = if i = k then some a else look t k := by
  unfold look
  by_cases h : i = k
  · simp [h]
  · simp [h]

theorem sorted_nil : Sorted ([] : SVec α) := List.Pairwise.nil

theorem sorted_cons (i : Nat) (a : α) (t : SVec α) :
    Sorted ((i, a) :: t) ↔ (∀ p ∈ t, i < p.1) ∧ Sorted t := by
  rw [Sorted, List.map_cons, List.pairwise_cons, List.forall_mem_map]; rfl

/-- an index before the head of a sorted row is before all of it. -/
theorem lt_of_lt_head {k : Nat} {y : SVec α} (hy : Sorted y) (h : ∀ q ∈ y.head?, k < q.1) :
    ∀ p ∈ y, k < p.1 := by
  match y with
  | [] => intro p hp; cases hp
  | (j, b) :: u =>
    intro p hp
    rcases List.mem_cons.1 hp with rfl | hp
    · exact h _ rfl
    · exact Nat.lt_trans (h _ rfl) (((sorted_cons j b u).1 hy).1 p hp)

theorem look_none_of_lt (t : SVec α) (k : Nat) (h : ∀ p ∈ t, k < p.1) : look t k = none := by
  induction t with
  | nil => rfl
  | cons p t ih =>
    obtain ⟨i, a⟩ := p
    have := h (i, a) List.mem_cons_self
    rw [look_cons, if_neg (by omega)]
    exact ih (fun p hp => h p (List.mem_cons_of_mem _ hp))

theorem look_cell_append (i : Nat) (o : Option α) (r : SVec α) (k : Nat) :
    look (cell i o ++ r) k = if i = k then o.or (look r k) else look r k := by
  cases o <;> simp [cell, look_cons]

theorem sorted_cell_append (i : Nat) (o : Option α) (r : SVec α) (hr : Sorted r)
    (hlt : ∀ p ∈ r, i < p.1) : Sorted (cell i o ++ r) := by
  cases o with
  | none => exact hr
  | some v => exact (sorted_cons i v r).2 ⟨hlt, hr⟩

theorem look_some_mem (x : SVec α) (k : Nat) (a : α) (h : look x k = some a) : (k, a) ∈ x := by
  obtain ⟨p, hp, rfl⟩ := Option.map_eq_some_iff.1 h
  have hk : p.1 = k := by simpa using List.find?_some hp
  exact hk ▸ List.mem_of_find?_eq_some hp

theorem look_of_mem (d : SVec α) (hd : Sorted d) (p : Nat × α) (hp : p ∈ d) :
    look d p.1 = some p.2 := by
  induction d with
  | nil => simp at hp
  | cons q t ih =>
    obtain ⟨i, a⟩ := q
    rw [sorted_cons] at hd
    rw [look_cons]
    rcases List.mem_cons.1 hp with rfl | hp
    · simp
    · have := hd.1 p hp
      rw [if_neg (by omega)]
      exact ih hd.2 hp

theorem any_eq_look (x : SVec α) (i : Nat) : x.any (·.1 == i) = (look x i).isSome := by
  rw [look, Option.isSome_map, List.isSome_find?]

theorem mem_map_fst_iff_look (z : SVec α) (k : Nat) : k ∈ z.map (·.1) ↔ (look z k).isSome := by
  rw [← any_eq_look, List.any_eq_true]
  simp only [List.mem_map, beq_iff_eq]

theorem look_mapVal (h : α → α) (y : SVec α) (k : Nat) :
    look (y.map (fun p => (p.1, h p.2))) k = (look y k).map h := by
  rw [look, List.find?_map, Option.map_map, look, Option.map_map]
  rfl

theorem sorted_mapVal (h : α → α) (y : SVec α) :
    Sorted (y.map (fun p => (p.1, h p.2))) ↔ Sorted y := by
  unfold Sorted
  rw [List.map_map]
  rfl

theorem look_merge (f : α → α → Option α) (g1 g2 : α → Option α) (x y : SVec α)
    (hx : Sorted x) (hy : Sorted y) (k : Nat) :
    look (merge f g1 g2 x y) k =
      match look x k, look y k with
      | some a, some b => f a b
      | some a, none => g1 a
      | none, some b => g2 b
      | none, none => none := by
  -- the cell emitted at `i` answers for `k = i`, where the tails hold nothing; the rest for `k ≠ i`
  induction x, y using merge_induct with
  | nil => rw [merge_nil_nil]; rfl
  | eq i a b t u ih =>
    rw [sorted_cons] at hx hy
    rw [merge_eq, look_cell_append, look_cons, look_cons, ih hx.2 hy.2]
    by_cases h : i = k
    · subst h
      simp [look_none_of_lt t i hx.1, look_none_of_lt u i hy.1]
    · simp [h]
  | lt i a t y hd ih =>
    rw [sorted_cons] at hx
    rw [merge_lt _ _ _ hd, look_cell_append, look_cons, ih hx.2 hy]
    by_cases h : i = k
    · subst h
      simp [look_none_of_lt t i hx.1, look_none_of_lt y i (lt_of_lt_head hy hd)]
    · simp [h]
  | gt j b x u hd ih =>
    rw [sorted_cons] at hy
    rw [merge_gt _ _ _ hd, look_cell_append, look_cons, ih hx hy.2]
    by_cases h : j = k
    · subst h
      simp [look_none_of_lt u j hy.1, look_none_of_lt x j (lt_of_lt_head hx hd)]
    · simp [h]

theorem mem_merge_total (f : α → α → Option α) (g1 g2 : α → Option α)
    (hf : ∀ a b, (f a b).isSome) (h1 : ∀ a, (g1 a).isSome) (h2 : ∀ a, (g2 a).isSome)
    (x y : SVec α) (hx : Sorted x) (hy : Sorted y) (k : Nat) :
    k ∈ (merge f g1 g2 x y).map (·.1) ↔ k ∈ x.map (·.1) ∨ k ∈ y.map (·.1) := by
  simp only [mem_map_fst_iff_look, look_merge f g1 g2 x y hx hy k]
  cases look x k <;> cases look y k <;> simp [hf, h1, h2]

/-- where an entry `p` of `merge f g1 g2 x y` can come from. -/
def Prov (f : α → α → Option α) (g1 g2 : α → Option α) (x y : SVec α) (p : Nat × α) : Prop :=
  (∃ a b, (p.1, a) ∈ x ∧ (p.1, b) ∈ y ∧ f a b = some p.2)
  ∨ (∃ a, (p.1, a) ∈ x ∧ g1 a = some p.2)
  ∨ (∃ b, (p.1, b) ∈ y ∧ g2 b = some p.2)

theorem Prov.mono {f : α → α → Option α} {g1 g2 : α → Option α} {x x' y y' : SVec α}
    {p : Nat × α} (h : Prov f g1 g2 x y p) (hx : ∀ q ∈ x, q ∈ x') (hy : ∀ q ∈ y, q ∈ y') :
    Prov f g1 g2 x' y' p := by
  rcases h with ⟨a, b, h1, h2, h3⟩ | ⟨a, h1, h2⟩ | ⟨b, h1, h2⟩
  · exact Or.inl ⟨a, b, hx _ h1, hy _ h2, h3⟩
  · exact Or.inr (Or.inl ⟨a, hx _ h1, h2⟩)
  · exact Or.inr (Or.inr ⟨b, hy _ h1, h2⟩)

theorem mem_merge (f : α → α → Option α) (g1 g2 : α → Option α) (x y : SVec α) :
    ∀ p ∈ merge f g1 g2 x y, Prov f g1 g2 x y p := by
  have tl : ∀ {q : Nat × α} {t : SVec α}, ∀ r ∈ t, r ∈ q :: t :=
    fun r hr => List.mem_cons_of_mem _ hr
  -- an entry is the cell just emitted, which comes from the heads, or lies in the merge of the rest
  induction x, y using merge_induct with
  | nil => rw [merge_nil_nil]; intro p hp; cases hp
  | eq i a b t u ih =>
    rw [merge_eq]
    intro p hp
    rcases List.mem_append.1 hp with h | h
    · obtain ⟨rfl, h2⟩ := mem_cell h
      exact Or.inl ⟨a, b, List.mem_cons_self, List.mem_cons_self, h2⟩
    · exact (ih p h).mono tl tl
  | lt i a t y hd ih =>
    rw [merge_lt _ _ _ hd]
    intro p hp
    rcases List.mem_append.1 hp with h | h
    · obtain ⟨rfl, h2⟩ := mem_cell h
      exact Or.inr (Or.inl ⟨a, List.mem_cons_self, h2⟩)
    · exact (ih p h).mono tl (fun _ hq => hq)
  | gt j b x u hd ih =>
    rw [merge_gt _ _ _ hd]
    intro p hp
    rcases List.mem_append.1 hp with h | h
    · obtain ⟨rfl, h2⟩ := mem_cell h
      exact Or.inr (Or.inr ⟨b, List.mem_cons_self, h2⟩)
    · exact (ih p h).mono (fun _ hq => hq) tl

theorem merge_index_bound (P : Nat → Prop) (f : α → α → Option α) (g1 g2 : α → Option α)
    (x y : SVec α) (hx : ∀ p ∈ x, P p.1) (hy : ∀ p ∈ y, P p.1) :
    ∀ p ∈ merge f g1 g2 x y, P p.1 := by
  intro p hp
  rcases mem_merge f g1 g2 x y p hp with ⟨a, _, h, _, _⟩ | ⟨a, h, _⟩ | ⟨b, h, _⟩
  · exact hx (p.1, a) h
  · exact hx (p.1, a) h
  · exact hy (p.1, b) h

theorem merge_forall_snd (P : α → Prop) (f : α → α → Option α) (g1 g2 : α → Option α)
    (hf : ∀ a b v, f a b = some v → P v) (h1 : ∀ a v, g1 a = some v → P v)
    (h2 : ∀ b v, g2 b = some v → P v) (x y : SVec α) : ∀ p ∈ merge f g1 g2 x y, P p.2 := by
  intro p hp
  rcases mem_merge f g1 g2 x y p hp with ⟨a, b, _, _, h⟩ | ⟨a, _, h⟩ | ⟨b, _, h⟩
  · exact hf a b _ h
  · exact h1 a _ h
  · exact h2 b _ h

/-- `sparse_sum`, `sparse_mul`, `arr_union`, `arr_intersect` return sorted indices when their
    arguments have them. -/
theorem merge_sorted (f : α → α → Option α) (g1 g2 : α → Option α) (x y : SVec α)
    (hx : Sorted x) (hy : Sorted y) : Sorted (merge f g1 g2 x y) := by
  -- the cell emitted at `i` goes in front of a merge of rows whose indices all exceed `i`
  induction x, y using merge_induct with
  | nil => rw [merge_nil_nil]; exact sorted_nil
  | eq i a b t u ih =>
    rw [sorted_cons] at hx hy
    rw [merge_eq]
    exact sorted_cell_append i (f a b) _ (ih hx.2 hy.2)
      (merge_index_bound (i < ·) f g1 g2 _ _ hx.1 hy.1)
  | lt i a t y hd ih =>
    rw [sorted_cons] at hx
    rw [merge_lt _ _ _ hd]
    exact sorted_cell_append i (g1 a) _ (ih hx.2 hy)
      (merge_index_bound (i < ·) f g1 g2 _ _ hx.1 (lt_of_lt_head hy hd))
  | gt j b x u hd ih =>
    rw [sorted_cons] at hy
    rw [merge_gt _ _ _ hd]
    exact sorted_cell_append j (g2 b) _ (ih hx hy.2)
      (merge_index_bound (j < ·) f g1 g2 _ _ (lt_of_lt_head hx hd) hy.1)

theorem Row.merge {n : Nat} {x y : SVec α} (hx : Row n x) (hy : Row n y)
    (f : α → α → Option α) (g1 g2 : α → Option α) : Row n (merge f g1 g2 x y) :=
  ⟨merge_sorted f g1 g2 x y hx.1 hy.1, merge_index_bound (· < n) f g1 g2 x y hx.2 hy.2⟩

theorem Row.mapVal {n : Nat} {x : SVec α} (hx : Row n x) (h : α → α) :
    Row n (x.map (fun p => (p.1, h p.2))) := by
  refine ⟨(sorted_mapVal h x).2 hx.1, fun p hp => ?_⟩
  obtain ⟨q, hq, rfl⟩ := List.mem_map.1 hp
  exact hx.2 q hq

theorem merge_swap (f : α → α → Option α) (g1 g2 : α → Option α) (x y : SVec α) :
    merge f g1 g2 x y = merge (fun b a => f a b) g2 g1 y x := by
  induction x, y using merge_induct with
  | nil => rw [merge_nil_nil, merge_nil_nil]
  | eq i a b t u ih => rw [merge_eq, merge_eq, ih]
  | lt i a t y hd ih => rw [merge_lt _ _ _ hd, merge_gt _ _ _ hd, ih]
  | gt j b x u hd ih => rw [merge_gt _ _ _ hd, merge_lt _ _ _ hd, ih]

theorem merge_length_le (f f' : α → α → Option α) (g1 g2 g1' g2' : α → Option α)
    (hf : ∀ a b, (f a b).isSome → (f' a b).isSome)
    (h1 : ∀ a, (g1 a).isSome → (g1' a).isSome) (h2 : ∀ a, (g2 a).isSome → (g2' a).isSome)
    (x y : SVec α) :
    (merge f g1 g2 x y).length ≤ (merge f' g1' g2' x y).length := by
  -- the two merges run in lockstep, and cell by cell the first emits no more than the second
  have step : ∀ (i : Nat) {o o' : Option α} {r r' : SVec α}, (o.isSome → o'.isSome) →
      r.length ≤ r'.length → (cell i o ++ r).length ≤ (cell i o' ++ r').length := by
    intro i o o' r r' h hr
    rw [List.length_append, List.length_append, length_cell, length_cell]
    refine Nat.add_le_add ?_ hr
    cases o with
    | none => exact Nat.zero_le _
    | some a => rw [if_pos (h rfl)]; exact Nat.le_refl _
  induction x, y using merge_induct with
  | nil => rw [merge_nil_nil, merge_nil_nil]; exact Nat.le_refl _
  | eq i a b t u ih => rw [merge_eq, merge_eq]; exact step i (hf a b) ih
  | lt i a t y hd ih => rw [merge_lt _ _ _ hd, merge_lt _ _ _ hd]; exact step i (h1 a) ih
  | gt j b x u hd ih => rw [merge_gt _ _ _ hd, merge_gt _ _ _ hd]; exact step j (h2 b) ih

section sizes
variable [OfNat α 1]

/-- no merge emits more cells than the union does … -/
theorem length_merge_le_unionSize (f : α → α → Option α) (g1 g2 : α → Option α) (x y : SVec α) :
    (merge f g1 g2 x y).length ≤ unionSize x y :=
  merge_length_le _ _ _ _ _ _ (fun _ _ _ => rfl) (fun _ _ => rfl) (fun _ _ => rfl) x y

/-- … and one that emits at the common indices only, no more than the intersection. -/
theorem length_merge_le_interSize (f : α → α → Option α) (x y : SVec α) :
    (merge f (fun _ => none) (fun _ => none) x y).length ≤ interSize x y :=
  merge_length_le _ _ _ _ _ _ (fun _ _ _ => rfl) (fun _ h => h) (fun _ h => h) x y

theorem interSize_comm (x y : SVec α) : interSize x y = interSize y x := by
  unfold interSize
  rw [merge_swap]

theorem interSize_le_left (x y : SVec α) : interSize x y ≤ x.length := by
  unfold interSize
  induction x, y using merge_induct with
  | nil => rw [merge_nil_nil]; exact Nat.le_refl _
  | eq i a b t u ih => rw [merge_eq]; exact Nat.succ_le_succ ih
  | lt i a t y hd ih => rw [merge_lt _ _ _ hd]; exact Nat.le_succ_of_le ih
  | gt j b x u hd ih => rw [merge_gt _ _ _ hd]; exact ih

theorem interSize_le_right (x y : SVec α) : interSize x y ≤ y.length :=
  interSize_comm y x ▸ interSize_le_left y x

theorem interSize_of_same_indices (x y : SVec α) (h : x.map (·.1) = y.map (·.1)) :
    interSize x y = x.length := by
  unfold interSize
  -- rows with the same index list are consumed head by head
  induction x generalizing y with
  | nil =>
    obtain rfl : y = [] := List.map_eq_nil_iff.1 h.symm
    rw [merge_nil_nil]
  | cons p t ih =>
    match y, h with
    | q :: u, h =>
      rw [List.map_cons, List.map_cons, List.cons.injEq] at h
      obtain ⟨i, a⟩ := p
      obtain ⟨j, b⟩ := q
      obtain rfl : i = j := h.1
      rw [merge_eq, List.length_append, ih u h.2]
      exact Nat.add_comm _ _

/-- inclusion–exclusion (no sortedness needed): a common index is emitted by both merges, a
    one-sided one by the union alone. -/
theorem interSize_add_unionSize (x y : SVec α) :
    interSize x y + unionSize x y = x.length + y.length := by
  unfold interSize unionSize
  induction x, y using merge_induct with
  | nil => rw [merge_nil_nil, merge_nil_nil]
  | eq i a b t u ih =>
    rw [merge_eq, merge_eq]
    simp only [cell, List.length_append, List.length_cons, List.length_nil]
    omega
  | lt i a t y hd ih =>
    rw [merge_lt _ _ _ hd, merge_lt _ _ _ hd]
    simp only [cell, List.length_append, List.length_cons, List.length_nil]
    omega
  | gt j b x u hd ih =>
    rw [merge_gt _ _ _ hd, merge_gt _ _ _ hd]
    simp only [cell, List.length_append, List.length_cons, List.length_nil]
    omega

end sizes

end generic

end C13
end Umap
