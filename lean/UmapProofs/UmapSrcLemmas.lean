/-
  UmapProofs.UmapSrcLemmas — the loops of the kernels of `Generated/UmapSrc.lean` that go beyond
  `UmapProofs/SrcLemmas.lean`: nested loops that accumulate into a row or into the rows of a matrix
  (`for j: for d: a[i][d] += …`), with or without a guard and a counter.  Only `+` on the scalars is used.
-/
import UmapProofs.SrcLemmas

namespace Umap
namespace UmapSrcLemmas
open SrcLemmas

variable {α β γ δ σ : Type}

theorem foldl_filter' (p : γ → Bool) (f : σ → γ → σ) (l : List γ) (s : σ) :
    (l.filter p).foldl f s = l.foldl (fun a x => if p x then f a x else a) s :=
  List.foldl_filter ..

/-- storing a row of length `dim` keeps a matrix rectangular -/
theorem rows_set {st : List (List α)} {dim : Nat} (h : ∀ r ∈ st, r.length = dim) (i : Nat) {r : List α}
    (hr : r.length = dim) : ∀ r' ∈ st.set i r, r'.length = dim :=
  fun r' hr' => (List.mem_or_eq_of_mem_set hr').elim (h r') (· ▸ hr)

/-- `for j in js: for d in range(dim): r[d] += c j d` computes, in every coordinate, the left-to-right sum -/
theorem row_accum [Add α] (l : List γ) (c : γ → Nat → α) (dim : Nat) (z : α) (r0 : List α)
    (hr : r0.length = dim) :
    l.foldl (fun r j => (List.range dim).foldl (fun r d => r.set d (r.getD d z + c j d)) r) r0
      = (List.range dim).map (fun d => l.foldl (fun acc j => acc + c j d) (r0.getD d z)) := by
  induction l generalizing r0 with
  | nil => exact (map_range_getD_self r0 z hr).symm
  | cons j l ih =>
    rw [List.foldl_cons, foldl_update (fun d v => v + c j d) z r0 hr,
      ih _ (by rw [List.length_map, List.length_range])]
    exact map_range_congr fun d hd => by rw [getD_map_range _ _ hd, List.foldl_cons]

/-- the triple loop `for i: for j: for d: a[i][d] += c i j d` on a zero matrix -/
theorem foldl_accum3 [Add α] (c : Nat → Nat → Nat → α) (N k dim : Nat) (z : α) :
    (List.range N).foldl (fun st i =>
        (List.range k).foldl (fun st j =>
          (List.range dim).foldl (fun st d =>
            st.set i ((st.getD i []).set d ((st.getD i []).getD d z + c i j d))) st) st)
        (List.replicate N (List.replicate dim z))
      = (List.range N).map (fun i => (List.range dim).map (fun d =>
          (List.range k).foldl (fun acc j => acc + c i j d) z)) := by
  -- the `d` loop, then the `j` loop, only write row `i`: they act on that row
  have e1 := fun (i j : Nat) (st : List (List α)) =>
    foldl_slot (fun d (r : List α) => r.set d (r.getD d z + c i j d)) (List.range dim) i [] st
  have e2 := fun (i : Nat) (st : List (List α)) => foldl_slot
    (fun j r => (List.range dim).foldl (fun r d => r.set d (r.getD d z + c i j d)) r) (List.range k) i [] st
  simp only [e1, e2]
  rw [foldl_update_replicate (fun i r => (List.range k).foldl (fun r j =>
    (List.range dim).foldl (fun r d => r.set d (r.getD d z + c i j d)) r) r) [] (List.replicate dim z) N]
  refine map_range_congr fun i _ => ?_
  rw [row_accum _ (c i) dim z _ (List.length_replicate ..)]
  simp only [getD_replicate_self]

/-- `for x in l: for d in range(dim): if c x: n += 1; r[d] += o x d` — the counter ends at `count * dim`,
    the row accumulates the guarded terms left to right. -/
theorem row_loop [Add α] (c : γ → Prop) [DecidablePred c] (o : γ → Nat → α) (z : α) (dim : Nat)
    (l : List γ) (n0 : Nat) (r0 : List α) (hr : r0.length = dim) :
    l.foldl (fun (s : Nat × List α) x =>
        (List.range dim).foldl (fun (s : Nat × List α) d =>
          if c x then (s.1 + 1, s.2.set d (s.2.getD d z + o x d)) else s) s) (n0, r0)
      = (n0 + (l.filter (fun x => decide (c x))).length * dim,
         (List.range dim).map (fun d =>
           (l.filter (fun x => decide (c x))).foldl (fun acc x => acc + o x d) (r0.getD d z))) := by
  -- the guard does not depend on `d`: an `x` that fails it leaves the state alone, the others run the `d` loop
  -- unguarded, where the counter and the row are independent
  have inner : ∀ (x : γ) (s : Nat × List α),
      (List.range dim).foldl (fun (s : Nat × List α) d =>
          if c x then (s.1 + 1, s.2.set d (s.2.getD d z + o x d)) else s) s
        = if decide (c x) then
            (s.1 + dim, (List.range dim).foldl (fun r d => r.set d (r.getD d z + o x d)) s.2)
          else s := by
    intro x s
    by_cases hp : c x
    · simp only [hp, if_true, decide_true]
      exact (foldl_pair (List.range dim) (fun (n : Nat) _ => n + 1)
        (fun (r : List α) d => r.set d (r.getD d z + o x d)) s.1 s.2).trans
        (by rw [List.foldl_add_const, Nat.one_mul, List.length_range])
    · simp only [hp, if_false, decide_false, List.foldl_fixed, Bool.false_eq_true]
  simp only [inner]
  rw [← foldl_filter' (fun x => decide (c x)) (fun (s : Nat × List α) x =>
      (s.1 + dim, (List.range dim).foldl (fun r d => r.set d (r.getD d z + o x d)) s.2)),
    foldl_pair _ (fun (n : Nat) _ => n + dim)
      (fun (r : List α) x => (List.range dim).foldl (fun r d => r.set d (r.getD d z + o x d)) r),
    List.foldl_add_const, row_accum _ o dim z r0 hr, Nat.mul_comm]

end UmapSrcLemmas
end Umap
