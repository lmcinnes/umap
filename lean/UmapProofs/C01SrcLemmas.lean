/-
  C01SrcLemmas — the flat, row-major `n × k` table (`buf[i * k + j]`) and the double loop of guarded stores that
  fills four of them at once.  Used by `UmapProps/C01Src.lean` (`compute_membership_strengths`).
-/
import UmapProofs.SrcLemmas

namespace Umap
namespace C01SrcLemmas
open SrcLemmas

variable {β : Type}

/-- the flat, row-major `n × k` table with entries `f i j`. -/
def flat (n k : Nat) (f : Nat → Nat → β) : List β :=
  (List.range (n * k)).map fun p => f (p / k) (p % k)

theorem length_flat (n k : Nat) (f : Nat → Nat → β) : (flat n k f).length = n * k := by
  rw [flat, List.length_map, List.length_range]

theorem getD_flat {n k i j : Nat} (f : Nat → Nat → β) (d : β) (hi : i < n) (hj : j < k) :
    (flat n k f).getD (i * k + j) d = f i j := by
  rw [flat, getD_map_range _ _ (Nat.mul_comm i k ▸ Nat.mul_add_lt_mul_of_lt_of_lt hi hj), mul_add_div_of_lt i hj,
    Nat.mul_add_mod_of_lt hj]

/-- `for i in range(n): for j in range(k): if skip i j: continue; A[i*k+j] = a i j; …; if rd: D[i*k+j] = e i j`
    on fresh buffers of length `n * k` (the fourth empty unless `rd`): the double loop is one loop over the cells
    `p = i * k + j` (`foldl_range_mul`), and that is a guarded store loop on each buffer (`foldl_set_if`). -/
theorem grid4 {A B C D : Type} (skip : Nat → Nat → Bool) (a : Nat → Nat → A) (b : Nat → Nat → B)
    (c : Nat → Nat → C) (e : Nat → Nat → D) (rd : Bool) (n k : Nat) (za : A) (zb : B) (zc : C) (ze : D) :
    (List.range n).foldl (fun st i =>
        (List.range k).foldl (fun st j =>
          if skip i j then st
          else (st.1.set (i * k + j) (a i j), st.2.1.set (i * k + j) (b i j),
                st.2.2.1.set (i * k + j) (c i j),
                if rd then st.2.2.2.set (i * k + j) (e i j) else st.2.2.2)) st)
        (List.replicate (n * k) za, List.replicate (n * k) zb, List.replicate (n * k) zc,
         if rd then List.replicate (n * k) ze else [])
      = (flat n k fun i j => if !skip i j then a i j else za,
         flat n k fun i j => if !skip i j then b i j else zb,
         flat n k fun i j => if !skip i j then c i j else zc,
         if rd then flat n k (fun i j => if !skip i j then e i j else ze) else []) := by
  refine (foldl_range_mul _ n k _).trans ?_
  refine ((congrArg (fun f => List.foldl f _ _) (funext₂ fun st p => ?_)).trans
    (foldl_quad (List.range (n * k))
      (fun l p => if !skip (p / k) (p % k) then l.set p (a (p / k) (p % k)) else l)
      (fun l p => if !skip (p / k) (p % k) then l.set p (b (p / k) (p % k)) else l)
      (fun l p => if !skip (p / k) (p % k) then l.set p (c (p / k) (p % k)) else l)
      (fun l p => if !skip (p / k) (p % k) && rd then l.set p (e (p / k) (p % k)) else l)
      _ _ _ _)).trans ?_
  · -- the cell `p / k * k + p % k` is `p`
    rw [Nat.div_add_mod']
    cases skip (p / k) (p % k) <;> cases rd <;> rfl
  · simp only [foldl_set_if, flat]
    cases rd
    · simp only [Bool.and_false, Bool.false_eq_true, if_false, List.foldl_fixed]
    · simp only [Bool.and_true, if_true, foldl_set_if]

end C01SrcLemmas
end Umap
