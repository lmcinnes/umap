/-
  UmapProofs.MetricsLemmas — what the shared pieces of `UmapModel/Metrics.lean` compute: the support
  counts and count quotients of the binary family, `diffs` (with the facts a metric
  `F (∑ f (xᵢ - yᵢ))` needs beside `sumL_map_nonneg`: `diffs_swap_map`, `sumL_map_diffs_self`,
  `eq_of_sumL_map_diffs_eq_zero`), `dot`.  Used by the dense-metric, sparse-metric, gradient and
  source-tie theorems alike.
-/
import UmapProofs.Basic
import UmapModel.Metrics

namespace Umap
namespace Metrics

section counts
variable {α : Type} [LE α] [DecidableLE α] [OfNat α 0]

def countStep (c : Counts) (p : α × α) : Counts :=
  match nzB p.1, nzB p.2 with
  | true, true => { c with tt := c.tt + 1 }
  | true, false => { c with tf := c.tf + 1 }
  | false, true => { c with ft := c.ft + 1 }
  | false, false => c

theorem counts_eq_foldl (x y : List α) :
    counts x y = (x.zip y).foldl countStep { n := x.length, tt := 0, tf := 0, ft := 0 } := rfl

theorem foldl_countStep (l : List (α × α)) (c : Counts) :
    l.foldl countStep c
      = { n := c.n,
          tt := c.tt + l.countP (fun p => nzB p.1 && nzB p.2),
          tf := c.tf + l.countP (fun p => nzB p.1 && !nzB p.2),
          ft := c.ft + l.countP (fun p => !nzB p.1 && nzB p.2) } := by
  induction l generalizing c with
  | nil => rfl
  | cons p l ih =>
    rw [List.foldl_cons, ih]
    -- `countP` of `p :: l` adds `if … p then 1 else 0`: put it next to the counter, then compute
    simp only [List.countP_cons, ← Nat.add_assoc, Nat.add_right_comm _ (List.countP _ l)]
    unfold countStep
    cases nzB p.1 <;> cases nzB p.2 <;> rfl

theorem counts_eq_countP (x y : List α) :
    counts x y
      = { n := x.length,
          tt := (x.zip y).countP (fun p => nzB p.1 && nzB p.2),
          tf := (x.zip y).countP (fun p => nzB p.1 && !nzB p.2),
          ft := (x.zip y).countP (fun p => !nzB p.1 && nzB p.2) } := by
  rw [counts_eq_foldl, foldl_countStep]; simp only [Nat.zero_add]

end counts

section quotients
variable {K : Type} [Field K] [LinearOrder K]

@[simp] theorem nzB_iff (v : K) : nzB v = true ↔ v ≠ 0 := by
  rw [nzB, Bool.not_eq_true', eqV_eq_false_iff]

theorem nzB_zero : nzB (0 : K) = false := by simp [nzB]

variable [IsStrictOrderedRing K]

/-- a quotient of counts `a ≤ b` is a fraction (also for `b = 0`, where it is `0`). -/
theorem rat_range {a b : Nat} (h : a ≤ b) : 0 ≤ rat (α := K) a b ∧ rat (α := K) a b ≤ 1 :=
  ⟨div_nonneg (Nat.cast_nonneg a) (Nat.cast_nonneg b),
    div_le_one_of_le₀ (Nat.cast_le.mpr h) (Nat.cast_nonneg b)⟩

/-- the shape of the guarded members of the binary family: `0` on degenerate counts, else a
    quotient of counts. -/
theorem ite_rat_range (p : Prop) [Decidable p] {a b : Nat} (h : a ≤ b) :
    0 ≤ (if p then (0 : K) else rat a b) ∧ (if p then (0 : K) else rat a b) ≤ 1 := by
  split_ifs
  · exact ⟨le_rfl, zero_le_one⟩
  · exact rat_range h

end quotients

section diffs
variable {K : Type} [Field K] {β : Type}

theorem map_diffs (f : K → β) (x y : List K) :
    (diffs x y).map f = (x.zip y).map (fun p => f (p.1 - p.2)) := List.map_map

theorem diffs_swap (x y : List K) : diffs y x = (diffs x y).map (fun d => -d) := by
  rw [map_diffs]
  unfold diffs
  rw [map_zip_swap]
  simp only [neg_sub]

/-- an even function does not see the order of the two vectors. -/
theorem diffs_swap_map (f : K → β) (hf : ∀ d, f (-d) = f d) (x y : List K) :
    (diffs y x).map f = (diffs x y).map f := by
  rw [diffs_swap, List.map_map]
  exact List.map_congr_left fun d _ => hf d

theorem map_diffs_self (f : K → β) (x : List K) : (diffs x x).map f = x.map fun _ => f 0 := by
  rw [map_diffs, map_zip_self]; simp only [sub_self]

theorem diffs_self (x : List K) : ∀ d ∈ diffs x x, d = 0 := by
  rw [diffs, map_zip_self]
  exact List.forall_mem_map.2 fun a _ => sub_self a

theorem sumL_map_diffs_self (f : K → K) (hf : f 0 = 0) (x : List K) :
    sumL ((diffs x x).map f) = 0 := by
  rw [map_diffs_self]; exact sumL_map_eq_zero _ _ fun _ _ => hf

variable [LinearOrder K] [IsStrictOrderedRing K]

theorem eq_of_sumL_map_diffs_eq_zero (f : K → K) (hn : ∀ d, 0 ≤ f d) (hd : ∀ d, f d = 0 → d = 0)
    (x y : List K) (h : x.length = y.length) (h0 : sumL ((diffs x y).map f) = 0) : x = y := by
  rw [map_diffs] at h0
  exact eq_of_sumL_zip_eq_zero _ (fun a b => hn (a - b)) (fun a b e => sub_eq_zero.mp (hd _ e))
    x y h h0

end diffs

section dot
variable {K : Type} [Field K]

theorem dot_cons_cons (v w : K) (a b : List K) : dot (v :: a) (w :: b) = v * w + dot a b := by
  simp only [dot, List.zip_cons_cons, List.map_cons, sumL_cons]

theorem dot_self_eq (x : List K) : dot x x = sumL (x.map fun a => a * a) := by
  unfold dot; rw [map_zip_self]

theorem dot_symm (x y : List K) : dot y x = dot x y :=
  sumL_zip_comm _ (fun a b => mul_comm b a) x y

theorem dot_map_neg_right (x y : List K) : dot x (y.map fun v => -v) = -dot x y := by
  unfold dot
  rw [List.zip_map_right, List.map_map, ← neg_one_mul, ← sumL_map_mul_left]
  exact congrArg sumL (List.map_congr_left fun q _ => (mul_neg _ _).trans (neg_one_mul _).symm)

variable [LinearOrder K] [IsStrictOrderedRing K]

theorem dot_self_nonneg (x : List K) : 0 ≤ dot x x := by
  rw [dot_self_eq]; exact sumL_map_nonneg _ _ fun a _ => mul_self_nonneg a

theorem dot_self_eq_zero_iff (x : List K) : dot x x = 0 ↔ ∀ v ∈ x, v = 0 := by
  rw [dot_self_eq, sumL_map_eq_zero_iff _ _ fun a _ => mul_self_nonneg a]
  simp only [mul_self_eq_zero]

theorem dot_eq_zero_of_left (a b : List K) (h : dot a a = 0) : dot a b = 0 :=
  sumL_map_eq_zero _ _ fun p hp => by
    rw [(dot_self_eq_zero_iff a).1 h p.1 (List.of_mem_zip hp).1, zero_mul]

theorem dot_eq_zero_of_right (a b : List K) (h : dot b b = 0) : dot a b = 0 := by
  rw [← dot_symm]; exact dot_eq_zero_of_left b a h

end dot
end Metrics
end Umap
