/-
  UmapProofs.GraphLemmas — a COO matrix read as a function of the position (`lookup`) or row by
  row (`rowOf`), the operations that keep that reading simple (`elimZeros`, `tabulate`, `scale`),
  the blend `mix` and what `symmetrize` stores.  The values carry only what the lemmas of a
  section use: nothing (`Triples`), a field (`Values`), a linear order on it (`Ordered`), an
  ordered field (the order facts of `mix` at the end of `Values`, and the last two).
-/
import UmapProofs.Basic

namespace Umap
namespace Graph

section Triples
variable {K : Type}

theorem mem_positions (A : Coo K) (i j : Nat) : (i, j) ∈ positions A ↔ ∃ v, (i, j, v) ∈ A := by
  unfold positions
  simp only [List.mem_eraseDups, List.mem_map, Prod.exists, Prod.mk.injEq]
  constructor
  · rintro ⟨a, b, v, h, rfl, rfl⟩; exact ⟨v, h⟩
  · rintro ⟨v, h⟩; exact ⟨i, j, v, h, rfl, rfl⟩

theorem nodup_positions (A : Coo K) : (positions A).Nodup := nodup_eraseDups _

theorem mem_positions_append (A B : Coo K) (p : Nat × Nat) :
    p ∈ positions (A ++ B) ↔ p ∈ positions A ∨ p ∈ positions B := by
  unfold positions
  simp only [List.mem_eraseDups, List.map_append, List.mem_append]

theorem mem_positions_append_comm (A B : Coo K) (p : Nat × Nat) :
    p ∈ positions (A ++ B) ↔ p ∈ positions (B ++ A) := by
  rw [mem_positions_append, mem_positions_append, or_comm]

theorem positions_append_perm (A B : Coo K) : (positions (A ++ B)).Perm (positions (B ++ A)) :=
  (List.perm_ext_iff_of_nodup (nodup_positions _) (nodup_positions _)).2
    (mem_positions_append_comm A B)

theorem mem_transposeC (A : Coo K) (i j : Nat) (v : K) : (i, j, v) ∈ transposeC A ↔ (j, i, v) ∈ A := by
  unfold transposeC
  rw [List.mem_map]
  constructor
  · rintro ⟨⟨a, b, c⟩, h, he⟩
    cases he
    exact h
  · exact fun h => ⟨_, h, rfl⟩

theorem mem_positions_symm (A : Coo K) (i j : Nat) :
    (i, j) ∈ positions (A ++ transposeC A) ↔ (∃ v, (i, j, v) ∈ A) ∨ (∃ v, (j, i, v) ∈ A) := by
  rw [mem_positions_append, mem_positions, mem_positions]
  simp only [mem_transposeC]

theorem mem_rowOf {A : Coo K} {i j : Nat} {v : K} : (j, v) ∈ rowOf A i ↔ (i, j, v) ∈ A := by
  unfold rowOf
  rw [List.mem_map]
  constructor
  · rintro ⟨⟨a, b, c⟩, ht, he⟩
    cases he
    rw [List.mem_filter, beq_iff_eq] at ht
    exact ht.2 ▸ ht.1
  · exact fun h => ⟨_, List.mem_filter.2 ⟨h, beq_self_eq_true i⟩, rfl⟩

/-- no position is stored twice. -/
def NoDup (A : Coo K) : Prop := (A.map (fun t => (t.1, t.2.1))).Nodup

/-- the matrix storing `f i j` at each listed position `(i, j)` (`general_sset_union`,
    `general_sset_intersection` and the blend of `fuzzy_simplicial_set` all have this shape). -/
def tabulate (pos : List (Nat × Nat)) (f : Nat → Nat → K) : Coo K :=
  pos.map fun p => (p.1, p.2, f p.1 p.2)

theorem tabulate_keys (pos : List (Nat × Nat)) (f : Nat → Nat → K) :
    (tabulate pos f).map (fun t => (t.1, t.2.1)) = pos := by
  unfold tabulate
  rw [List.map_map]
  exact List.map_id'' (fun _ => rfl) _

theorem mem_tabulate {pos : List (Nat × Nat)} {f : Nat → Nat → K} {i j : Nat} {v : K} :
    (i, j, v) ∈ tabulate pos f ↔ (i, j) ∈ pos ∧ v = f i j := by
  unfold tabulate
  rw [List.mem_map]
  constructor
  · rintro ⟨⟨a, b⟩, hp, he⟩
    cases he
    exact ⟨hp, rfl⟩
  · rintro ⟨hp, rfl⟩
    exact ⟨(i, j), hp, rfl⟩

theorem forall_tabulate {pos : List (Nat × Nat)} {f : Nat → Nat → K} {P : Nat × Nat × K → Prop}
    (h : ∀ p ∈ pos, P (p.1, p.2, f p.1 p.2)) : ∀ t ∈ tabulate pos f, P t :=
  List.forall_mem_map.2 h

theorem noDup_tabulate {pos : List (Nat × Nat)} (h : pos.Nodup) (f : Nat → Nat → K) :
    NoDup (tabulate pos f) := by
  unfold NoDup
  rwa [tabulate_keys]

theorem positions_tabulate {pos : List (Nat × Nat)} (h : pos.Nodup) (f : Nat → Nat → K) :
    positions (tabulate pos f) = pos := by
  unfold positions
  rw [tabulate_keys]
  exact eraseDups_of_nodup _ h

end Triples

section Values
variable {K : Type} [Field K]

@[simp] theorem lookup_nil (i j : Nat) : lookup ([] : Coo K) i j = 0 := by
  simp [lookup]

theorem lookup_cons (t : Nat × Nat × K) (A : Coo K) (i j : Nat) :
    lookup (t :: A) i j = (if t.1 = i ∧ t.2.1 = j then t.2.2 else 0) + lookup A i j := by
  have hp : (t.1 == i && t.2.1 == j) = true ↔ t.1 = i ∧ t.2.1 = j := by
    rw [Bool.and_eq_true, beq_iff_eq, beq_iff_eq]
  exact (sumL_filter_map_cons _ _ t A).trans (congrArg (· + lookup A i j) (if_congr hp rfl rfl))

/-- a position at which nothing is stored reads `0`. -/
theorem lookup_eq_zero_of_not_mem (A : Coo K) (i j : Nat) (h : ∀ v, (i, j, v) ∉ A) :
    lookup A i j = 0 :=
  sumL_filter_map_eq_zero _ _ A fun ⟨a, b, v⟩ ht => Bool.eq_false_iff.2 fun hp => by
    simp only [Bool.and_eq_true, beq_iff_eq] at hp
    exact h v (hp.1 ▸ hp.2 ▸ ht)

theorem lookup_ne_zero_mem (A : Coo K) (i j : Nat) (h : lookup A i j ≠ 0) :
    ∃ v, (i, j, v) ∈ A :=
  Classical.not_forall_not.1 fun hc => h (lookup_eq_zero_of_not_mem A i j hc)

theorem lookup_of_mem_nodup (A : Coo K) (hA : NoDup A) (i j : Nat) (v : K) (h : (i, j, v) ∈ A) :
    lookup A i j = v := by
  induction A with
  | nil => exact absurd h List.not_mem_nil
  | cons t A ih =>
    obtain ⟨ht, hA⟩ := List.nodup_cons.1 hA
    -- nothing else is stored at the position of the head
    have hk : ∀ w, (t.1, t.2.1, w) ∉ A := fun w hw => ht (List.mem_map.2 ⟨_, hw, rfl⟩)
    rw [lookup_cons]
    rcases List.mem_cons.1 h with rfl | h'
    · rw [if_pos ⟨rfl, rfl⟩, lookup_eq_zero_of_not_mem A _ _ hk, add_zero]
    · rw [if_neg fun (e : t.1 = i ∧ t.2.1 = j) => hk v (e.1 ▸ e.2 ▸ h'), zero_add]
      exact ih hA h'

theorem lookup_tabulate {pos : List (Nat × Nat)} (hnd : pos.Nodup) (f : Nat → Nat → K) (i j : Nat) :
    lookup (tabulate pos f) i j = if (i, j) ∈ pos then f i j else 0 := by
  split_ifs with h
  · exact lookup_of_mem_nodup _ (noDup_tabulate hnd _) i j _ (mem_tabulate.2 ⟨h, rfl⟩)
  · exact lookup_eq_zero_of_not_mem _ i j fun v hv => h (mem_tabulate.1 hv).1

/-- every stored value multiplied by a factor of its position (`fast_intersection` and
    `normalize(norm="max")` both do this). -/
def scale (f : Nat → Nat → K) (A : Coo K) : Coo K :=
  A.map fun t => (t.1, t.2.1, t.2.2 * f t.1 t.2.1)

theorem scale_keys (f : Nat → Nat → K) (A : Coo K) :
    (scale f A).map (fun t => (t.1, t.2.1)) = A.map (fun t => (t.1, t.2.1)) := by
  unfold scale
  rw [List.map_map]
  rfl

theorem mem_scale (f : Nat → Nat → K) (A : Coo K) (i j : Nat) (w : K) :
    (i, j, w) ∈ scale f A ↔ ∃ v, (i, j, v) ∈ A ∧ w = v * f i j := by
  unfold scale
  rw [List.mem_map]
  constructor
  · rintro ⟨⟨a, b, v⟩, h, he⟩
    cases he
    exact ⟨v, h, rfl⟩
  · rintro ⟨v, h, rfl⟩
    exact ⟨_, h, rfl⟩

theorem lookup_scale (f : Nat → Nat → K) (A : Coo K) (i j : Nat) :
    lookup (scale f A) i j = lookup A i j * f i j := by
  unfold scale
  induction A with
  | nil => exact (zero_mul _).symm
  | cons t A ih =>
    rw [List.map_cons, lookup_cons, lookup_cons, ih, add_mul, ite_mul, zero_mul]
    congr 1
    split_ifs with ht
    · rw [← ht.1, ← ht.2]
    · rfl

theorem noDup_scale (f : Nat → Nat → K) {A : Coo K} (h : NoDup A) : NoDup (scale f A) := by
  unfold NoDup at *
  rwa [scale_keys]

theorem positions_scale (f : Nat → Nat → K) (A : Coo K) : positions (scale f A) = positions A := by
  unfold positions
  rw [scale_keys]

/-! ### the blend `mix`

  `mix r a b` is affine in `r`: it starts at the product `a * b` (pure intersection) and rises with
  slope `a * (1 - b) + b * (1 - a)`, which is non-negative on the unit square; its complement
  `1 - mix r a b` starts at `(1 - a) * (1 - b)` and rises with the same slope in `1 - r`.  Every
  range and monotonicity fact about the blend is read off one of these two forms. -/

theorem mix_eq (r a b : K) : mix r a b = a * b + r * (a * (1 - b) + b * (1 - a)) := by
  unfold mix; ring

theorem one_sub_mix (r a b : K) :
    1 - mix r a b = (1 - a) * (1 - b) + (1 - r) * (a * (1 - b) + b * (1 - a)) := by
  unfold mix; ring

theorem mix_comm (r a b : K) : mix r a b = mix r b a := by
  rw [mix, mix, add_comm a b, mul_comm a b]

@[simp] theorem mix_zero_zero (r : K) : mix r 0 0 = 0 := by simp [mix]

theorem mix_zero (a b : K) : mix 0 a b = a * b := by rw [mix_eq, zero_mul, add_zero]

theorem mix_one (a b : K) : mix 1 a b = a + b - a * b := by unfold mix; ring

/-- the blend is the convex combination of the fuzzy union and the fuzzy intersection. -/
theorem mix_convex (r a b : K) : mix r a b = r * mix 1 a b + (1 - r) * mix 0 a b := by
  rw [mix_one, mix_zero]
  rfl

/-- an edge exists only where at least one directed strength is non-zero. -/
theorem mix_support {r a b : K} (h : mix r a b ≠ 0) : a ≠ 0 ∨ b ≠ 0 := by
  by_contra hc
  push Not at hc
  exact h (by rw [hc.1, hc.2, mix_zero_zero])

section
variable [LinearOrder K] [IsStrictOrderedRing K]

theorem mix_gap_nonneg {a b : K} (ha0 : 0 ≤ a) (ha1 : a ≤ 1) (hb0 : 0 ≤ b) (hb1 : b ≤ 1) :
    0 ≤ a * (1 - b) + b * (1 - a) :=
  add_nonneg (mul_nonneg ha0 (sub_nonneg.2 hb1)) (mul_nonneg hb0 (sub_nonneg.2 ha1))

/-- a pure union (`r = 1`) dominates each side. -/
theorem le_mix_one_left {a b : K} (ha1 : a ≤ 1) (hb0 : 0 ≤ b) : a ≤ mix 1 a b := by
  rw [mix_one, add_sub_assoc]
  exact le_add_of_nonneg_right (sub_nonneg.2 (mul_le_of_le_one_left hb0 ha1))

theorem le_mix_one_right {a b : K} (ha0 : 0 ≤ a) (hb1 : b ≤ 1) : b ≤ mix 1 a b :=
  mix_comm 1 b a ▸ le_mix_one_left hb1 ha0

theorem mix_nonneg {r a b : K} (hr0 : 0 ≤ r) (ha0 : 0 ≤ a) (ha1 : a ≤ 1)
    (hb0 : 0 ≤ b) (hb1 : b ≤ 1) : 0 ≤ mix r a b :=
  mix_eq r a b ▸ add_nonneg (mul_nonneg ha0 hb0) (mul_nonneg hr0 (mix_gap_nonneg ha0 ha1 hb0 hb1))

theorem mix_le_one {r a b : K} (hr1 : r ≤ 1) (ha0 : 0 ≤ a) (ha1 : a ≤ 1)
    (hb0 : 0 ≤ b) (hb1 : b ≤ 1) : mix r a b ≤ 1 :=
  sub_nonneg.1 <| one_sub_mix r a b ▸ add_nonneg
    (mul_nonneg (sub_nonneg.2 ha1) (sub_nonneg.2 hb1))
    (mul_nonneg (sub_nonneg.2 hr1) (mix_gap_nonneg ha0 ha1 hb0 hb1))

theorem mul_max_le_mix {r a b : K} (hr0 : 0 ≤ r) (hr1 : r ≤ 1) (ha0 : 0 ≤ a) (ha1 : a ≤ 1)
    (hb0 : 0 ≤ b) (hb1 : b ≤ 1) : r * max a b ≤ mix r a b := by
  have hmax : max a b ≤ mix 1 a b := max_le (le_mix_one_left ha1 hb0) (le_mix_one_right ha0 hb1)
  rw [mix_convex, mix_zero]
  exact le_add_of_le_of_nonneg (mul_le_mul_of_nonneg_left hmax hr0)
    (mul_nonneg (sub_nonneg.2 hr1) (mul_nonneg ha0 hb0))

theorem mix_pos_of_pos {r a b : K} (hr0 : 0 < r) (hr1 : r ≤ 1) (ha0 : 0 ≤ a) (ha1 : a ≤ 1)
    (hb0 : 0 ≤ b) (hb1 : b ≤ 1) (h : a ≠ 0 ∨ b ≠ 0) : 0 < mix r a b := by
  refine lt_of_lt_of_le (mul_pos hr0 ?_) (mul_max_le_mix hr0.le hr1 ha0 ha1 hb0 hb1)
  rcases h with h | h
  · exact lt_max_of_lt_left (ha0.lt_of_ne' h)
  · exact lt_max_of_lt_right (hb0.lt_of_ne' h)

end

end Values

section Ordered
variable {K : Type} [Field K] [LinearOrder K]

theorem mem_elimZeros (A : Coo K) (t : Nat × Nat × K) : t ∈ elimZeros A ↔ t ∈ A ∧ t.2.2 ≠ 0 := by
  rw [elimZeros, List.mem_filter, Bool.not_eq_true', ← Bool.not_eq_true, isZero_iff]

theorem elimZeros_cons (t : Nat × Nat × K) (A : Coo K) :
    elimZeros (t :: A) = if t.2.2 = 0 then elimZeros A else t :: elimZeros A := by
  unfold elimZeros
  by_cases hz : t.2.2 = 0
  · rw [if_pos hz, List.filter_cons_of_neg (by rw [(isZero_iff _).2 hz]; exact Bool.false_ne_true)]
  · rw [if_neg hz, List.filter_cons_of_pos (by rw [isZero, (eqV_eq_false_iff _ _).2 hz]; rfl)]

theorem lookup_elimZeros (A : Coo K) (i j : Nat) : lookup (elimZeros A) i j = lookup A i j := by
  induction A with
  | nil => rfl
  | cons t A ih =>
    rw [elimZeros_cons, lookup_cons]
    by_cases hz : t.2.2 = 0
    · rw [if_pos hz, ih, hz, ite_self, zero_add]
    · rw [if_neg hz, lookup_cons, ih]

theorem noDup_elimZeros {A : Coo K} (hA : NoDup A) : NoDup (elimZeros A) :=
  hA.sublist (List.Sublist.map _ List.filter_sublist)

theorem symmetrize_eq (r : K) (A : Coo K) :
    symmetrize r A = elimZeros (tabulate (positions (A ++ transposeC A))
      fun i j => mix r (lookup A i j) (lookup A j i)) := rfl

/-- what `symmetrize` stores: exactly the non-zero blends (a non-zero blend has a non-zero
    directed strength on one side, so its position is one of `A ++ transposeC A`). -/
theorem mem_symmetrize (r : K) (A : Coo K) (i j : Nat) (v : K) :
    (i, j, v) ∈ symmetrize r A ↔ v = mix r (lookup A i j) (lookup A j i) ∧ v ≠ 0 := by
  rw [symmetrize_eq, mem_elimZeros, mem_tabulate, and_assoc, mem_positions_symm]
  refine ⟨fun h => h.2, fun h => ⟨?_, h⟩⟩
  exact (mix_support (h.1 ▸ h.2)).imp (lookup_ne_zero_mem A i j) (lookup_ne_zero_mem A j i)

/-- a stored edge has a non-zero directed strength in one direction or the other. -/
theorem support_of_mem_symmetrize {r : K} {A : Coo K} {i j : Nat} {v : K}
    (h : (i, j, v) ∈ symmetrize r A) : lookup A i j ≠ 0 ∨ lookup A j i ≠ 0 :=
  let ⟨hv, hne⟩ := (mem_symmetrize r A i j v).1 h
  mix_support (hv ▸ hne)

end Ordered

variable {K : Type} [Field K] [LinearOrder K] [IsStrictOrderedRing K]

theorem lookup_ne_zero_positions (A : Coo K) (i j : Nat) (h : lookup A i j ≠ 0) :
    (i, j) ∈ positions A := (mem_positions A i j).2 (lookup_ne_zero_mem A i j h)

theorem lookup_nonneg (A : Coo K) (h : ∀ t ∈ A, 0 ≤ t.2.2) (i j : Nat) : 0 ≤ lookup A i j :=
  sumL_map_nonneg _ _ fun t ht => h t (List.mem_filter.1 ht).1

end Graph

end Umap
