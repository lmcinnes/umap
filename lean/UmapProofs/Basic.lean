/-
  UmapProofs.Basic — the model's scalar vocabulary (`UmapModel/Scalar.lean`) in Mathlib's terms, and the
  list facts every property file needs.

  The model is written against bare `LT` / `Add` / … instances so that it also runs at `Float`.  Over a linear
  order its `eqV`, `maxV`, `minV`, `absV`, `maxL`, `minL` are `=`, `max`, `min`, `|·|` and folds of `max` / `min`,
  and `sumL` is `List.sum`: a proof rewrites with these bridges once and then uses Mathlib.  Only the shapes that
  recur in the model (`sumL (l.map f)`, sums over a `zip`, the sum of the values a `filter` keeps) have lemmas of
  their own here.  The sections go by what a lemma needs of the scalars (nothing, a linear order, a commutative
  monoid, a field, a field with a linear order, an ordered field): a lemma stated under instances it does not use
  makes every application unify them.
-/
import Mathlib.Tactic.Ring
import Mathlib.Tactic.Linarith
import Mathlib.Tactic.Positivity
import Mathlib.Tactic.FieldSimp
import Mathlib.Algebra.Order.Field.Basic
import Mathlib.Algebra.Order.BigOperators.Group.List
import Mathlib.Algebra.BigOperators.Ring.List
import UmapModel.Scalar
import UmapModel.Graph

namespace Umap

/-! ### lists -/

section lists
variable {α β γ σ : Type}

theorem map_zip_swap (x : List α) (y : List β) (f : β × α → γ) :
    (y.zip x).map f = (x.zip y).map (fun p => f (p.2, p.1)) := by
  rw [← List.zip_swap, List.map_map]; rfl

theorem zip_self (x : List α) : x.zip x = x.map fun a => (a, a) := by
  rw [List.zip_eq_zipWith, List.zipWith_self]

theorem map_zip_self (x : List α) (f : α × α → γ) :
    (x.zip x).map f = x.map (fun a => f (a, a)) := by
  rw [zip_self, List.map_map]; rfl

theorem map_zip_fst (x : List α) (y : List β) (h : x.length = y.length) (f : α → γ) :
    (x.zip y).map (fun p => f p.1) = x.map f := by
  show (x.zip y).map (f ∘ Prod.fst) = _
  rw [← List.map_map, List.map_fst_zip h.le]

theorem map_zip_snd (x : List α) (y : List β) (h : x.length = y.length) (f : β → γ) :
    (x.zip y).map (fun p => f p.2) = y.map f := by
  show (x.zip y).map (f ∘ Prod.snd) = _
  rw [← List.map_map, List.map_snd_zip h.ge]

/-- equally long lists whose zipped pairs have equal components are equal. -/
theorem eq_of_zip_forall_eq (x y : List α) (h : x.length = y.length)
    (hp : ∀ p ∈ x.zip y, p.1 = p.2) : x = y :=
  calc x = (x.zip y).map Prod.fst := (List.map_fst_zip h.le).symm
    _ = (x.zip y).map Prod.snd := List.map_congr_left hp
    _ = y := List.map_snd_zip h.ge

theorem exists_mem_zip_of_mem_left {a : α} {l : List α} {l' : List β} (h : a ∈ l)
    (hl : l.length ≤ l'.length) : ∃ b, (a, b) ∈ l.zip l' := by
  obtain ⟨⟨_, b⟩, hp, rfl⟩ := List.mem_map.1 ((List.map_fst_zip hl).symm ▸ h)
  exact ⟨b, hp⟩

theorem nodup_eraseDups [BEq α] [LawfulBEq α] (l : List α) : l.eraseDups.Nodup := by
  induction h : l.length using Nat.strong_induction_on generalizing l with
  | _ n ih =>
    cases l with
    | nil => simp
    | cons a as =>
      rw [List.eraseDups_cons, List.nodup_cons]
      refine ⟨by simp, ih _ ?_ _ rfl⟩
      subst h
      exact Nat.lt_succ_of_le (List.length_filter_le _ _)

/-- `eraseDups` does nothing on a duplicate-free list. -/
theorem eraseDups_of_nodup [BEq α] [LawfulBEq α] (l : List α) (h : l.Nodup) : l.eraseDups = l := by
  induction l with
  | nil => rfl
  | cons a as ih =>
    rw [List.nodup_cons] at h
    have hf : as.filter (fun b => !b == a) = as :=
      List.filter_eq_self.2 fun b hb => by
        simp only [Bool.not_eq_eq_eq_not, Bool.not_true, beq_eq_false_iff_ne, ne_eq]
        rintro rfl; exact h.1 hb
    rw [List.eraseDups_cons, hf, ih h.2]

theorem forall_mem_pair {P : α → Prop} {a b : α} (ha : P a) (hb : P b) : ∀ v ∈ [a, b], P v :=
  List.forall_mem_cons.2 ⟨ha, List.forall_mem_singleton.2 hb⟩

/-- a result computed from two optional parameters (`Option.map₂`, as the model writes it) exists
    exactly when both do. -/
theorem bind_map_eq_some_iff {o : Option α} {o' : Option β} {g : α → β → γ} {u : γ} :
    (o.bind fun a => o'.map (g a)) = some u ↔ ∃ a b, o = some a ∧ o' = some b ∧ u = g a b :=
  Option.map₂_eq_some_iff.trans <| exists₂_congr fun _ _ =>
    and_congr_right fun _ => and_congr_right fun _ => eq_comm

theorem bind_map_eq_none_iff {o : Option α} {o' : Option β} {g : α → β → γ} :
    (o.bind fun a => o'.map (g a)) = none ↔ o = none ∨ o' = none :=
  Option.map₂_eq_none_iff

/-- an invariant preserved by every step holds after the fold. -/
theorem foldl_inv (P : σ → Prop) (f : σ → β → σ) (h : ∀ s b, P s → P (f s b))
    (l : List β) (s : σ) (hs : P s) : P (l.foldl f s) :=
  List.foldlRecOn l f hs fun s hs b _ => h s b hs

/-- a projection that no step changes is unchanged by the fold. -/
theorem foldl_proj_mem (π : σ → γ) (f : σ → β → σ) (l : List β)
    (h : ∀ t, ∀ x ∈ l, π (f t x) = π t) (s : σ) : π (l.foldl f s) = π s :=
  List.foldlRecOn (motive := fun t => π t = π s) l f rfl fun t ht x hx => (h t x hx).trans ht

/-- a fold commutes with a pair of maps on state and input that the step respects
    (swapping the two arguments of a metric swaps its accumulators). -/
theorem foldl_map_hom (φ : σ → σ) (ψ : β → β) (f : σ → β → σ)
    (h : ∀ s b, f (φ s) (ψ b) = φ (f s b)) (l : List β) (s : σ) :
    (l.map ψ).foldl f (φ s) = φ (l.foldl f s) := by
  rw [List.foldl_map]
  exact List.foldl_hom φ fun s b => h s b

theorem foldl_take_succ (f : σ → β → σ) (l : List β) (n : Nat) (h : n < l.length) (s : σ) :
    (l.take (n + 1)).foldl f s = f ((l.take n).foldl f s) l[n] := by
  rw [List.take_succ_eq_append_getElem h, List.foldl_append]; rfl

theorem foldl_range_succ (f : σ → Nat → σ) (s : σ) (n : Nat) :
    (List.range (n + 1)).foldl f s = f ((List.range n).foldl f s) n := by
  rw [List.range_succ, List.foldl_append]; rfl

/-- a fold over `range N` seen through a projection that only the step at `i` changes: it is that
    one step, taken from a state with the projection of the start. -/
theorem foldl_range_single (π : σ → γ) (f : σ → Nat → σ) {i N : Nat} (hi : i < N)
    (hne : ∀ t x, x ≠ i → π (f t x) = π t) (s : σ) :
    ∃ t, π t = π s ∧ π ((List.range N).foldl f s) = π (f t i) := by
  induction N with
  | zero => exact absurd hi (Nat.not_lt_zero i)
  | succ N ih =>
    rw [foldl_range_succ]
    rcases Nat.lt_succ_iff_lt_or_eq.1 hi with h | rfl
    · obtain ⟨t, ht, e⟩ := ih h
      exact ⟨t, ht, (hne _ N h.ne').trans e⟩
    · exact ⟨_, foldl_proj_mem π f _ (fun t x hx => hne t x (List.mem_range.1 hx).ne) s, rfl⟩

end lists

/-! ### `eqV`, `maxV`, `minV`, `maxL`, `minL` over a linear order -/

section order
variable {K : Type} [LinearOrder K]

@[simp] theorem eqV_iff (a b : K) : eqV a b = true ↔ a = b := by
  simp only [eqV, Bool.and_eq_true, decide_eq_true_eq]
  exact le_antisymm_iff.symm

theorem eqV_eq_false_iff (a b : K) : eqV a b = false ↔ a ≠ b := by
  rw [← Bool.not_eq_true, eqV_iff]

theorem maxV_eq_max (a b : K) : maxV a b = max a b := by
  unfold maxV; split_ifs with h
  · exact (max_eq_right h.le).symm
  · exact (max_eq_left (not_lt.1 h)).symm

theorem minV_eq_min (a b : K) : minV a b = min a b := by
  unfold minV; split_ifs with h
  · exact (min_eq_right h.le).symm
  · exact (min_eq_left (not_lt.1 h)).symm

theorem maxV_comm (a b : K) : maxV a b = maxV b a := by
  rw [maxV_eq_max, maxV_eq_max, max_comm]

theorem maxL_cons (init x : K) (xs : List K) : maxL init (x :: xs) = maxL (max init x) xs := by
  rw [← maxV_eq_max]; rfl

theorem minL_cons (init x : K) (xs : List K) : minL init (x :: xs) = minL (min init x) xs := by
  rw [← minV_eq_min]; rfl

/-- the running maximum is the least upper bound of its start value and the entries. -/
theorem maxL_le_iff {init c : K} {xs : List K} :
    maxL init xs ≤ c ↔ init ≤ c ∧ ∀ x ∈ xs, x ≤ c := by
  induction xs generalizing init with
  | nil => exact ⟨fun h => ⟨h, fun _ h => nomatch h⟩, fun h => h.1⟩
  | cons x xs ih => rw [maxL_cons, ih, max_le_iff, List.forall_mem_cons, and_assoc]

/-- `minL` over `K` unfolds to `maxL` over the dual order: its facts are the dual ones. -/
theorem le_minL_iff {init c : K} {xs : List K} :
    c ≤ minL init xs ↔ c ≤ init ∧ ∀ x ∈ xs, c ≤ x :=
  maxL_le_iff (K := Kᵒᵈ)

theorem maxL_ge_init (init : K) (xs : List K) : init ≤ maxL init xs := (maxL_le_iff.1 le_rfl).1

theorem le_maxL (init : K) (xs : List K) (x : K) (hx : x ∈ xs) : x ≤ maxL init xs :=
  (maxL_le_iff.1 le_rfl).2 x hx

/-- two lists with the same members up to the start value have the same running maximum. -/
theorem maxL_congr {init : K} (l1 l2 : List K) (hA : ∀ v ∈ l1, v = init ∨ v ∈ l2)
    (hB : ∀ v ∈ l2, v ∈ l1) : maxL init l1 = maxL init l2 :=
  le_antisymm
    (maxL_le_iff.2 ⟨maxL_ge_init init l2, fun v hv =>
      (hA v hv).elim (fun h0 => h0 ▸ maxL_ge_init init l2) (le_maxL init l2 v)⟩)
    (maxL_le_iff.2 ⟨maxL_ge_init init l1, fun v hv => le_maxL init l1 v (hB v hv)⟩)

theorem minL_le_init (init : K) (xs : List K) : minL init xs ≤ init := (le_minL_iff.1 le_rfl).1

theorem minL_le_mem (init : K) (xs : List K) (x : K) (hx : x ∈ xs) : minL init xs ≤ x :=
  (le_minL_iff.1 le_rfl).2 x hx

theorem maxL_mem (init : K) (xs : List K) : maxL init xs = init ∨ maxL init xs ∈ xs := by
  induction xs generalizing init with
  | nil => exact Or.inl rfl
  | cons x xs ih =>
    rw [maxL_cons]
    rcases ih (max init x) with h | h
    · rw [h]; exact (max_choice init x).imp_right fun e => List.mem_cons.2 (Or.inl e)
    · exact Or.inr (List.mem_cons_of_mem _ h)

theorem minL_mem (init : K) (xs : List K) : minL init xs = init ∨ minL init xs ∈ xs :=
  maxL_mem (K := Kᵒᵈ) init xs

end order

/-! ### `sumL` is `List.sum` -/

section monoid
variable {M : Type} [AddCommMonoid M]

theorem sumL_eq_sum (xs : List M) : sumL xs = xs.sum := by
  unfold sumL
  rw [← List.sum_eq_foldl]

@[simp] theorem sumL_nil : sumL ([] : List M) = 0 := rfl

@[simp] theorem sumL_cons (x : M) (xs : List M) : sumL (x :: xs) = x + sumL xs := by
  simp [sumL_eq_sum]

end monoid

/-! ### a field, no order: the `eps` guard of a quotient, sums and `+`, `-`, `*`, `/` -/

section field
variable {K : Type} [Field K] {α β : Type}

/-- a quotient `g / (eps + d)` guarded by `eps` is the unguarded one shrunk by `d / (eps + d)`. -/
theorem div_eps_add (g d eps : K) (hd : d ≠ 0) :
    g / (eps + d) = g / (0 + d) * (d / (eps + d)) := by
  rw [zero_add, div_mul_div_comm, mul_comm g d, mul_div_mul_left _ _ hd]

theorem sumL_eq_zero (l : List K) (h : ∀ v ∈ l, v = 0) : sumL l = 0 := by
  rw [sumL_eq_sum]; exact List.sum_eq_zero h

theorem sumL_map_eq_zero (l : List β) (f : β → K) (h : ∀ b ∈ l, f b = 0) : sumL (l.map f) = 0 :=
  sumL_eq_zero _ (List.forall_mem_map.2 h)

theorem sumL_map_perm (f : β → K) {l l' : List β} (h : l.Perm l') :
    sumL (l.map f) = sumL (l'.map f) := by
  rw [sumL_eq_sum, sumL_eq_sum]; exact (h.map f).sum_eq

theorem sumL_map_add (l : List β) (f g : β → K) :
    sumL (l.map fun b => f b + g b) = sumL (l.map f) + sumL (l.map g) := by
  simp only [sumL_eq_sum, List.sum_map_add]

theorem sumL_map_sub (l : List β) (f g : β → K) :
    sumL (l.map fun b => f b - g b) = sumL (l.map f) - sumL (l.map g) := by
  rw [eq_sub_iff_add_eq, ← sumL_map_add]; simp only [sub_add_cancel]

theorem sumL_map_mul_left (c : K) (f : β → K) (l : List β) :
    sumL (l.map fun b => c * f b) = c * sumL (l.map f) := by
  simp only [sumL_eq_sum, List.sum_map_mul_left]

theorem sumL_map_div (f : β → K) (s : K) (l : List β) :
    sumL (l.map fun b => f b / s) = sumL (l.map f) / s := by
  simp only [sumL_eq_sum, div_eq_mul_inv, List.sum_map_mul_right]

/-- the sum of the values stored under a key (`Graph.lookup`, `SparseRow.valueAt`), entry by entry. -/
theorem sumL_filter_map_cons (c : β → Bool) (f : β → K) (p : β) (l : List β) :
    sumL (((p :: l).filter c).map f) = (if c p then f p else 0) + sumL ((l.filter c).map f) := by
  rw [List.filter_cons]
  cases c p
  · exact (zero_add _).symm
  · exact sumL_cons _ _

theorem sumL_filter_map_eq_zero (c : β → Bool) (f : β → K) (l : List β)
    (h : ∀ p ∈ l, c p = false) : sumL ((l.filter c).map f) = 0 := by
  rw [List.filter_eq_nil_iff.2 fun p hp => Bool.not_eq_true _ ▸ h p hp]; exact sumL_nil

/-- a running subtraction is one subtraction of the sum. -/
theorem foldl_sub_eq_sub_sumL (l : List β) (f : β → K) (a : K) :
    l.foldl (fun st p => st - f p) a = a - sumL (l.map f) := by
  induction l generalizing a with
  | nil => exact (sub_zero a).symm
  | cons p l ih => rw [List.foldl_cons, ih, List.map_cons, sumL_cons, sub_sub]

/-! sums over a `zip`: what every coordinate-wise metric `F (Σ g (xᵢ, yᵢ))` needs -/

theorem sumL_zip_comm (g : α × α → K) (hg : ∀ a b, g (b, a) = g (a, b)) (x y : List α) :
    sumL ((y.zip x).map g) = sumL ((x.zip y).map g) := by
  rw [map_zip_swap]; simp only [hg]

theorem sumL_zip_self (g : α × α → K) (hg : ∀ a, g (a, a) = 0) (x : List α) :
    sumL ((x.zip x).map g) = 0 := by
  rw [map_zip_self]; exact sumL_map_eq_zero _ _ fun a _ => hg a

end field

/-! ### a field with a linear order: the zero tests of the code -/

section guards
variable {K : Type} [Field K] [LinearOrder K]

@[simp] theorem Graph.isZero_iff (a : K) : Graph.isZero a = true ↔ a = 0 := eqV_iff a 0

/-- the code's guard `if den > 0` around a division by a non-negative `den` changes nothing in a field. -/
theorem ite_pos_div {d : K} (hd : 0 ≤ d) (a : K) : (if 0 < d then a / d else 0) = a / d := by
  split_ifs with h
  · rfl
  · rw [le_antisymm (not_lt.1 h) hd, div_zero]

end guards

/-! ### an ordered field: `absV`, scaling a maximum, sums and `≤` -/

section ordered
variable {K : Type} [Field K] [LinearOrder K] [IsStrictOrderedRing K] {α β : Type}

theorem absV_eq_abs (a : K) : absV a = |a| := by
  unfold absV
  split_ifs with h
  · exact (abs_of_neg h).symm
  · exact (abs_of_nonneg (not_lt.mp h)).symm

theorem absV_nonneg (a : K) : 0 ≤ absV a := by rw [absV_eq_abs]; exact abs_nonneg a

theorem absV_neg (a : K) : absV (-a) = absV a := by rw [absV_eq_abs, absV_eq_abs, abs_neg]

theorem absV_zero : absV (0 : K) = 0 := by rw [absV_eq_abs, abs_zero]

theorem maxL_mul_left {c : K} (hc : 0 ≤ c) (init : K) (xs : List K) :
    maxL (c * init) (xs.map (c * ·)) = c * maxL init xs := by
  induction xs generalizing init with
  | nil => rfl
  | cons x t ih => rw [List.map_cons, maxL_cons, maxL_cons, ← mul_max_of_nonneg _ _ hc, ih]

theorem sumL_nonneg (l : List K) (h : ∀ v ∈ l, 0 ≤ v) : 0 ≤ sumL l := by
  rw [sumL_eq_sum]; exact List.sum_nonneg h

theorem sumL_map_nonneg (l : List β) (f : β → K) (h : ∀ b ∈ l, 0 ≤ f b) : 0 ≤ sumL (l.map f) :=
  sumL_nonneg _ (List.forall_mem_map.2 h)

theorem sumL_pos (f : β → K) (l : List β) (hne : l ≠ []) (h : ∀ b ∈ l, 0 < f b) :
    0 < sumL (l.map f) := by
  rw [sumL_eq_sum]
  exact List.sum_pos _ (List.forall_mem_map.2 h) (by simpa using hne)

/-- a sum of non-negative terms vanishes exactly when every term does. -/
theorem sumL_map_eq_zero_iff (l : List β) (f : β → K) (hn : ∀ b ∈ l, 0 ≤ f b) :
    sumL (l.map f) = 0 ↔ ∀ b ∈ l, f b = 0 :=
  ⟨fun h b hb => List.all_zero_of_le_zero_le_of_sum_eq_zero (List.forall_mem_map.2 hn)
    (by rwa [← sumL_eq_sum]) (List.mem_map_of_mem hb), sumL_map_eq_zero l f⟩

theorem sumL_map_le (l : List β) (f g : β → K) (h : ∀ b ∈ l, f b ≤ g b) :
    sumL (l.map f) ≤ sumL (l.map g) := by
  rw [sumL_eq_sum, sumL_eq_sum]; exact List.sum_le_sum h

theorem sumL_map_le_length_mul (l : List β) (f : β → K) (c : K) (h : ∀ b ∈ l, f b ≤ c) :
    sumL (l.map f) ≤ (l.length : K) * c := by
  rw [sumL_eq_sum]
  simpa using List.sum_le_card_nsmul (l.map f) c (List.forall_mem_map.2 h)

theorem sumL_map_le_length (l : List β) (f : β → K) (h : ∀ b ∈ l, f b ≤ 1) :
    sumL (l.map f) ≤ (l.length : K) :=
  (sumL_map_le_length_mul l f 1 h).trans_eq (mul_one _)

/-- termwise bounded differences add up. -/
theorem sumL_map_sub_le (l : List β) (f g : β → K) (c : K) (h : ∀ b ∈ l, g b - f b ≤ c) :
    sumL (l.map g) - sumL (l.map f) ≤ (l.length : K) * c := by
  rw [← sumL_map_sub]; exact sumL_map_le_length_mul l _ c h

/-- a weighted sum with non-negative weights lies between the extreme values times the total weight. -/
theorem sumL_mul_bounds (c x : β → K) (lo hi : K) (l : List β) (hc : ∀ p ∈ l, 0 ≤ c p)
    (hx : ∀ p ∈ l, lo ≤ x p ∧ x p ≤ hi) :
    sumL (l.map c) * lo ≤ sumL (l.map fun p => c p * x p)
      ∧ sumL (l.map fun p => c p * x p) ≤ sumL (l.map c) * hi := by
  -- termwise, with `lo` and `hi` brought inside the sums
  rw [mul_comm _ lo, mul_comm _ hi, ← sumL_map_mul_left, ← sumL_map_mul_left]
  exact ⟨sumL_map_le _ _ _ fun p hp =>
      (mul_comm _ _).trans_le (mul_le_mul_of_nonneg_left (hx p hp).1 (hc p hp)),
    sumL_map_le _ _ _ fun p hp =>
      (mul_le_mul_of_nonneg_left (hx p hp).2 (hc p hp)).trans_eq (mul_comm _ _)⟩

theorem eq_of_sumL_zip_eq_zero (g : α × α → K) (hn : ∀ a b, 0 ≤ g (a, b))
    (hd : ∀ a b, g (a, b) = 0 → a = b) (x y : List α) (h : x.length = y.length)
    (h0 : sumL ((x.zip y).map g) = 0) : x = y :=
  eq_of_zip_forall_eq x y h fun p hp =>
    hd p.1 p.2 ((sumL_map_eq_zero_iff _ g fun p _ => hn p.1 p.2).1 h0 p hp)

end ordered

end Umap
