/-
  UmapProofs.GradLemmas — what the gradient theorems (C14) share.  Vectors are `Fin n → ℝ` turned
  into the model's lists by `List.ofFn`, so the first group of lemmas turns `sumL`, `zip`, `map`,
  `getD` over such lists into finite sums and pointwise functions.  "Coordinate `i` varies" is
  `Function.update x i t`, and `HasPDerivAt G g' x i` says that `g'` is the derivative of
  `t ↦ G (Function.update x i t)` at `x i`: a sum of coordinate-wise terms has the derivative of its
  `i`-th term, the other summands being constants (`hasPDerivAt_sum_apply`), and the rules of
  `HasDerivAt` carry over with the values at the point stated at `x`; where a closed form holds only
  near `x` (a unique maximiser, an inactive clamp), `HasPDerivAt.congr_of_eventuallyEq` takes the
  neighbourhood in `Fin n → ℝ`.  The derivative of each distance shape (square root of a quadratic,
  cosine type, Hellinger type, `p`-norm) is a lemma about such `G`, the one-dimensional Gaussian
  energy one about scalar functions `ℝ → ℝ`, with the algebra of the resulting formula as a lemma
  about variables; the per-metric proofs only instantiate them.
-/
import Mathlib.Analysis.Calculus.Deriv.Abs
import Mathlib.Analysis.InnerProductSpace.NormPow
import UmapProofs.MetricsLemmas
import UmapProofs.RealT
import UmapModel.Metrics
import UmapModel.Grad

namespace Umap
open Metrics

theorem sumL_ofFn {n : ℕ} (f : Fin n → ℝ) : sumL (List.ofFn f) = ∑ j, f j := by
  rw [sumL_eq_sum, List.sum_ofFn]

theorem zip_ofFn {β γ : Type} {n : ℕ} (f : Fin n → β) (g : Fin n → γ) :
    (List.ofFn f).zip (List.ofFn g) = List.ofFn (fun j => (f j, g j)) := by
  apply List.ext_getElem
  · simp
  · intro k h1 h2
    simp

/-- `List.map_ofFn` with the composition unfolded. -/
theorem map_ofFn' {β γ : Type} {n : ℕ} (f : Fin n → β) (g : β → γ) :
    (List.ofFn f).map g = List.ofFn (fun j => g (f j)) := by
  rw [List.map_ofFn]; rfl

theorem getD_ofFn {n : ℕ} (f : Fin n → ℝ) (i : Fin n) (d : ℝ) :
    (List.ofFn f).getD i.val d = f i := by
  simp [List.getD]

theorem diffs_ofFn {n : ℕ} (x y : Fin n → ℝ) :
    diffs (List.ofFn x) (List.ofFn y) = List.ofFn (fun j => x j - y j) := by
  unfold diffs
  rw [zip_ofFn, map_ofFn']

theorem sumL_zip_map_ofFn {n : ℕ} (x y : Fin n → ℝ) (g : ℝ × ℝ → ℝ) :
    sumL (((List.ofFn x).zip (List.ofFn y)).map g) = ∑ j, g (x j, y j) := by
  rw [zip_ofFn, map_ofFn', sumL_ofFn]

theorem dot_ofFn {n : ℕ} (x y : Fin n → ℝ) :
    dot (List.ofFn x) (List.ofFn y) = ∑ j, x j * y j := by
  unfold dot; rw [sumL_zip_map_ofFn]

theorem zipIdx_ofFn {n : ℕ} (f : Fin n → ℝ) :
    (List.ofFn f).zipIdx = List.ofFn (fun j => (f j, j.val)) := by
  apply List.ext_getElem
  · simp
  · intro k h1 h2; simp

theorem ofFn2 (z : Fin 2 → ℝ) : List.ofFn z = [z 0, z 1] := by
  simp [List.ofFn_succ]

theorem ofFn3 (z : Fin 3 → ℝ) : List.ofFn z = [z 0, z 1, z 2] := by
  simp [List.ofFn_succ]

theorem ofFn4 (z : Fin 4 → ℝ) : List.ofFn z = [z 0, z 1, z 2, z 3] := by
  simp [List.ofFn_succ]

theorem signV_pos {a : ℝ} (h : 0 < a) : signV a = 1 := by
  unfold signV; rw [if_neg (not_lt.mpr h.le), if_pos h]

theorem signV_neg {a : ℝ} (h : a < 0) : signV a = -1 := by
  unfold signV; rw [if_pos h]

theorem signV_zero : signV (0 : ℝ) = 0 := by
  unfold signV; simp

theorem signV_mul_self (a : ℝ) : signV a * a = |a| := by
  rcases lt_trichotomy a 0 with h | h | h
  · rw [signV_neg h, abs_of_neg h]; ring
  · subst h; simp
  · rw [signV_pos h, abs_of_pos h]; ring

theorem signV_eq_sign (a : ℝ) : signV a = (SignType.sign a : ℝ) := by
  rcases lt_trichotomy a 0 with h | rfl | h
  · rw [signV_neg h, sign_neg h]; rfl
  · rw [signV_zero, sign_zero]; rfl
  · rw [signV_pos h, sign_pos h]; rfl

theorem abs_mul_signPM (a : ℝ) : |a| * signPM a = a := by
  unfold signPM
  split_ifs with h
  · rw [abs_of_neg h]; ring
  · rw [abs_of_nonneg (not_lt.1 h)]; ring

theorem sum_update {n : ℕ} (F : Fin n → ℝ → ℝ) (x : Fin n → ℝ) (i : Fin n) (t : ℝ) :
    ∑ j, F j (Function.update x i t j)
      = F i t + ∑ j ∈ Finset.univ.erase i, F j (x j) := by
  rw [← Finset.add_sum_erase _ _ (Finset.mem_univ i), Function.update_self]
  congr 1
  apply Finset.sum_congr rfl
  intro j hj
  rw [Function.update_of_ne (Finset.ne_of_mem_erase hj)]

theorem sum_update_self {n : ℕ} (F : Fin n → ℝ → ℝ) (x : Fin n → ℝ) (i : Fin n) :
    ∑ j, F j (x j) = F i (x i) + ∑ j ∈ Finset.univ.erase i, F j (x j) := by
  exact (Finset.add_sum_erase _ (fun j => F j (x j)) (Finset.mem_univ i)).symm

theorem hasDerivAt_abs_signV {a : ℝ} (h : a ≠ 0) : HasDerivAt (fun t => |t|) (signV a) a := by
  rw [signV_eq_sign]; exact hasDerivAt_abs h

theorem hasDerivAt_abs_sub {a c : ℝ} (h : a ≠ c) :
    HasDerivAt (fun t => |t - c|) (signV (a - c)) a :=
  (hasDerivAt_abs_signV (sub_ne_zero.2 h)).comp_sub_const a c

theorem hasDerivAt_abs_add {a c : ℝ} (h : a + c ≠ 0) :
    HasDerivAt (fun t => |t + c|) (signV (a + c)) a :=
  (hasDerivAt_abs_signV h).comp_add_const a c

/-- the denominators `|x| + |y|` of `canberra` and of the Gaussian energies are positive as soon as
    `x ≠ 0`, which is also where they are differentiable in `x`. -/
theorem abs_add_abs_pos {a : ℝ} (h : a ≠ 0) (b : ℝ) : 0 < |a| + |b| :=
  add_pos_of_pos_of_nonneg (abs_pos.2 h) (abs_nonneg b)

theorem hasDerivAt_abs_add_abs {a : ℝ} (b : ℝ) (h : a ≠ 0) :
    HasDerivAt (fun t => |t| + |b|) (signV a) a :=
  (hasDerivAt_abs_signV h).add_const _

theorem hasDerivAt_sub_mul_self (c a : ℝ) :
    HasDerivAt (fun t => (t - c) * (t - c)) (2 * (a - c)) a := by
  have h : HasDerivAt (fun s : ℝ => s - c) 1 a := (hasDerivAt_id' a).sub_const c
  exact (h.fun_mul h).congr_deriv (by rw [one_mul, mul_one, two_mul])

theorem two_mul_div_two_mul (a b : ℝ) : 2 * a / (2 * b) = a / b :=
  mul_div_mul_left a b two_ne_zero

/-- the quotient rule's derivative with the quotient `N / D` itself factored out. -/
theorem quot_alg (a b N D : ℝ) (hD : D ≠ 0) :
    (a * D - N * b) / D ^ 2 = (a - N / D * b) / D := by
  rw [sq, sub_div, sub_div, mul_div_mul_right _ _ hD]
  ring

variable {n : ℕ}

/-- the radicands and denominators of the metrics are sums over the coordinates of non-negative terms
    that vanish only where `x` and `y` agree: positive as soon as `x ≠ y`. -/
theorem sum_pos_of_ne {x y : Fin n → ℝ} (hne : x ≠ y) {f : Fin n → ℝ} (h0 : ∀ j, 0 ≤ f j)
    (h : ∀ j, x j ≠ y j → 0 < f j) : 0 < ∑ j, f j := by
  obtain ⟨j, hj⟩ := Function.ne_iff.1 hne
  exact Finset.sum_pos' (fun k _ => h0 k) ⟨j, Finset.mem_univ j, h j hj⟩

theorem sum_mul_self_pos {x : Fin n → ℝ} (hx : x ≠ 0) : 0 < ∑ j, x j * x j :=
  sum_pos_of_ne hx (fun _ => mul_self_nonneg _) fun _ => mul_self_pos.2

theorem sumsq_pos {x y : Fin n → ℝ} (hne : x ≠ y) : 0 < ∑ j, (x j - y j) * (x j - y j) :=
  sum_mul_self_pos (x := fun j => x j - y j) (sub_ne_zero.2 hne)

/-- `g'` is the partial derivative of `G` at `x` in coordinate `i`.  Every C14 theorem has this
    form, with `G` the returned distance as a function of the first vector.  The lemmas of this
    namespace are those of `HasDerivAt` with the values at the point stated at `x` itself instead of
    at `Function.update x i (x i)`, so that no proof built from them mentions `Function.update`. -/
def HasPDerivAt (G : (Fin n → ℝ) → ℝ) (g' : ℝ) (x : Fin n → ℝ) (i : Fin n) : Prop :=
  HasDerivAt (fun t => G (Function.update x i t)) g' (x i)

theorem tendsto_update (x : Fin n → ℝ) (i : Fin n) :
    Filter.Tendsto (Function.update x i) (nhds (x i)) (nhds x) :=
  (continuous_const.update i continuous_id).tendsto' _ _ (Function.update_eq_self i x)

namespace HasPDerivAt
variable {G H : (Fin n → ℝ) → ℝ} {g' h' : ℝ} {x : Fin n → ℝ} {i : Fin n}

theorem congr_deriv (hG : HasPDerivAt G g' x i) (e : g' = h') : HasPDerivAt G h' x i :=
  HasDerivAt.congr_deriv hG e

/-- what holds near `x` holds along the line through `x` in direction `i`, near `x i`. -/
theorem congr_of_eventuallyEq (hG : HasPDerivAt G g' x i) (h : H =ᶠ[nhds x] G) :
    HasPDerivAt H g' x i :=
  HasDerivAt.congr_of_eventuallyEq hG ((tendsto_update x i).eventually h)

theorem comp {φ : ℝ → ℝ} {φ' : ℝ} (hG : HasPDerivAt G g' x i) (hφ : HasDerivAt φ φ' (G x)) :
    HasPDerivAt (fun x => φ (G x)) (φ' * g') x i :=
  HasDerivAt.comp_of_eq (x i) hφ hG (by rw [Function.update_eq_self])

theorem sqrt (hG : HasPDerivAt G g' x i) (h0 : G x ≠ 0) :
    HasPDerivAt (fun x => Real.sqrt (G x)) (g' / (2 * Real.sqrt (G x))) x i :=
  (hG.comp (Real.hasDerivAt_sqrt h0)).congr_deriv (by rw [mul_comm, ← div_eq_mul_one_div])

theorem sqrt_of_two_mul {ξ : ℝ} (hG : HasPDerivAt G (2 * ξ) x i) (h0 : G x ≠ 0) :
    HasPDerivAt (fun x => Real.sqrt (G x)) (ξ / Real.sqrt (G x)) x i :=
  (hG.sqrt h0).congr_deriv (two_mul_div_two_mul _ _)

theorem mul (hG : HasPDerivAt G g' x i) (hH : HasPDerivAt H h' x i) :
    HasPDerivAt (fun x => G x * H x) (g' * H x + G x * h') x i := by
  have h := HasDerivAt.fun_mul hG hH
  rwa [Function.update_eq_self] at h

/-- the quotient rule, with the quotient itself factored out of the derivative (`quot_alg`). -/
theorem div (hG : HasPDerivAt G g' x i) (hH : HasPDerivAt H h' x i) (h0 : H x ≠ 0) :
    HasPDerivAt (fun x => G x / H x) ((g' - G x / H x * h') / H x) x i := by
  have h := HasDerivAt.fun_div hG hH (by rw [Function.update_eq_self]; exact h0)
  rw [Function.update_eq_self] at h
  exact h.congr_deriv (quot_alg _ _ _ _ h0)

/-! The remaining rules are those of `HasDerivAt` verbatim; they are restated so that a chain of
    them keeps the form `HasPDerivAt G …`, which records `G` for the next step (Lean cannot recover
    it from `fun t => … (Function.update x i t) …`). -/

theorem sub (hG : HasPDerivAt G g' x i) (hH : HasPDerivAt H h' x i) :
    HasPDerivAt (fun x => G x - H x) (g' - h') x i :=
  HasDerivAt.fun_sub hG hH

theorem const_add (c : ℝ) (hG : HasPDerivAt G g' x i) : HasPDerivAt (fun x => c + G x) g' x i :=
  HasDerivAt.const_add c hG

theorem const_sub (c : ℝ) (hG : HasPDerivAt G g' x i) : HasPDerivAt (fun x => c - G x) (-g') x i :=
  HasDerivAt.const_sub c hG

theorem add_const (hG : HasPDerivAt G g' x i) (c : ℝ) : HasPDerivAt (fun x => G x + c) g' x i :=
  HasDerivAt.add_const c hG

theorem sub_const (hG : HasPDerivAt G g' x i) (c : ℝ) : HasPDerivAt (fun x => G x - c) g' x i :=
  HasDerivAt.sub_const c hG

theorem mul_const (hG : HasPDerivAt G g' x i) (c : ℝ) :
    HasPDerivAt (fun x => G x * c) (g' * c) x i :=
  HasDerivAt.mul_const hG c

theorem div_const (hG : HasPDerivAt G g' x i) (c : ℝ) :
    HasPDerivAt (fun x => G x / c) (g' / c) x i :=
  HasDerivAt.div_const hG c

theorem sum {ι : Type} {u : Finset ι} {A : ι → (Fin n → ℝ) → ℝ} {A' : ι → ℝ}
    (h : ∀ j ∈ u, HasPDerivAt (A j) (A' j) x i) :
    HasPDerivAt (fun x => ∑ j ∈ u, A j x) (∑ j ∈ u, A' j) x i :=
  HasDerivAt.fun_sum h

end HasPDerivAt

theorem hasPDerivAt_apply (x : Fin n → ℝ) (i j : Fin n) :
    HasPDerivAt (fun x => x j) (if j = i then 1 else 0) x i := by
  unfold HasPDerivAt
  by_cases h : j = i
  · subst h; simp only [Function.update_self, if_true]; exact hasDerivAt_id _
  · simp only [Function.update_of_ne h, if_neg h]; exact hasDerivAt_const _ _

/-- only the `i`-th summand of a sum of coordinate-wise terms varies with `x i`. -/
theorem hasPDerivAt_sum_apply (F : Fin n → ℝ → ℝ) (x : Fin n → ℝ) (i : Fin n) {f' : ℝ}
    (h : HasDerivAt (F i) f' (x i)) : HasPDerivAt (fun x => ∑ j, F j (x j)) f' x i := by
  unfold HasPDerivAt
  simp_rw [sum_update]
  exact h.add_const _

theorem hasPDerivAt_sum_coord (x : Fin n → ℝ) (i : Fin n) :
    HasPDerivAt (fun x => ∑ j, x j) 1 x i :=
  hasPDerivAt_sum_apply (fun _ s => s) x i (hasDerivAt_id' _)

theorem hasPDerivAt_sum_mul_self (x : Fin n → ℝ) (i : Fin n) :
    HasPDerivAt (fun x => ∑ j, x j * x j) (2 * x i) x i :=
  hasPDerivAt_sum_apply (fun _ s => s * s) x i
    (((hasDerivAt_id' (x i)).fun_mul (hasDerivAt_id' (x i))).congr_deriv
      (by rw [one_mul, mul_one, two_mul]))

theorem hasPDerivAt_sum_mul (x y : Fin n → ℝ) (i : Fin n) :
    HasPDerivAt (fun x => ∑ j, x j * y j) (y i) x i :=
  hasPDerivAt_sum_apply (fun j s => s * y j) x i
    (((hasDerivAt_id' (x i)).mul_const (y i)).congr_deriv (one_mul _))

/-- the derivative `-((r' - R / s * s') / s)` of `1 - R / s` for `s = √(N c)`, `s' = 2 ξ c / (2 s)`. -/
theorem cosine_alg (r nx ny s xi yi : ℝ) (hnx : nx ≠ 0) (hs : s ≠ 0) (hs2 : s * s = nx * ny) :
    -((yi - r / s * (2 * xi * ny / (2 * s))) / s) = (xi * r - yi * nx) / (nx * s) := by
  field_simp
  linear_combination (-(r * xi)) * hs2

/-- a cosine-type distance `1 - R / √(N c)` with `N' = 2 ξ`: the shape shared by `cosine` (plain dot
    products) and `correlation` (centred ones). -/
theorem HasPDerivAt.one_sub_div_sqrt {R N : (Fin n → ℝ) → ℝ} {r' ξ c : ℝ} {x : Fin n → ℝ}
    {i : Fin n} (hR : HasPDerivAt R r' x i) (hN : HasPDerivAt N (2 * ξ) x i) (hNa : 0 < N x)
    (hc : 0 < c) :
    HasPDerivAt (fun x => 1 - R x / Real.sqrt (N x * c))
      ((ξ * R x - r' * N x) / (N x * Real.sqrt (N x * c))) x i := by
  have hpos := mul_pos hNa hc
  have hs := (Real.sqrt_pos.2 hpos).ne'
  exact ((hR.div ((hN.mul_const c).sqrt hpos.ne') hs).const_sub 1).congr_deriv
    (cosine_alg _ _ _ _ _ _ hNa.ne' hs (Real.mul_self_sqrt hpos.le))

/-- the Hellinger shape `√(1 - R / √(L Y))` along an affinity `R` and a mass `L` with `L' = 1`. -/
theorem HasPDerivAt.sqrt_one_sub_div_sqrt {R L : (Fin n → ℝ) → ℝ} {r' Y : ℝ} {x : Fin n → ℝ}
    {i : Fin n} (hR : HasPDerivAt R r' x i) (hL : HasPDerivAt L 1 x i) (hpos : 0 < L x * Y)
    (hd : 1 - R x / Real.sqrt (L x * Y) ≠ 0) :
    HasPDerivAt (fun x => Real.sqrt (1 - R x / Real.sqrt (L x * Y)))
      ((Y * R x / (2 * (Real.sqrt (L x * Y) * Real.sqrt (L x * Y) * Real.sqrt (L x * Y)))
          - r' / Real.sqrt (L x * Y))
        / (2 * Real.sqrt (1 - R x / Real.sqrt (L x * Y)))) x i := by
  have hs := (Real.sqrt_pos.2 hpos).ne'
  refine (((hR.div ((hL.mul_const Y).sqrt hpos.ne') hs).const_sub 1).sqrt hd).congr_deriv ?_
  -- the numerator is `-((r' - R / s * (1 * Y / (2 * s))) / s)` with `s = √(L Y)`
  rw [sub_div, neg_sub, one_mul, div_mul_div_comm, div_div, mul_comm (R x)]
  congr 3
  ring

theorem rpow_alg (a p : ℝ) (hp : 1 < p) :
    p * |a| ^ (p - 2) * a = p * (|a| ^ (p - 1) * signPM a) := by
  by_cases ha : a = 0
  · subst ha
    have : p - 1 ≠ 0 := sub_ne_zero.2 hp.ne'
    rw [abs_zero, Real.zero_rpow this, mul_zero, zero_mul, mul_zero]
  · have hpos : 0 < |a| := abs_pos.2 ha
    have e : |a| ^ (p - 1) = |a| ^ (p - 2) * |a| := by
      rw [show p - 1 = (p - 2) + 1 by ring, Real.rpow_add hpos, Real.rpow_one]
    rw [e]
    have := abs_mul_signPM a
    linear_combination (-(p * |a| ^ (p - 2))) * this

/-- for `p > 1`, `|t - c| ^ p` is differentiable also at `t = c`, where `|t - c|` is not. -/
theorem hasDerivAt_abs_sub_rpow (a c p : ℝ) (hp : 1 < p) :
    HasDerivAt (fun s => |s - c| ^ p) (p * (|a - c| ^ (p - 1) * signPM (a - c))) a :=
  ((hasDerivAt_abs_rpow (a - c) hp).comp_sub_const a c).congr_deriv (rpow_alg _ _ hp)

/-- `(∑_j F_j (x_j)) ^ (1/p)` as a function of coordinate `i`, where `F_i` has derivative `p * f'`:
    the `p`-norm shape shared by `minkowski` and `wminkowski`. -/
theorem hasPDerivAt_sum_apply_rpow_inv (F : Fin n → ℝ → ℝ) (x : Fin n → ℝ) (i : Fin n) {p f' : ℝ}
    (hp : p ≠ 0) (h : HasDerivAt (F i) (p * f') (x i)) (hS : 0 < ∑ j, F j (x j)) :
    HasPDerivAt (fun x => (∑ j, F j (x j)) ^ (1 / p)) (f' * (∑ j, F j (x j)) ^ (1 / p - 1)) x i :=
  ((hasPDerivAt_sum_apply F x i h).comp (Real.hasDerivAt_rpow_const (Or.inl hS.ne'))).congr_deriv
    (by rw [mul_comm, ← mul_assoc, mul_right_comm p, mul_one_div_cancel hp, one_mul])

/-- `q / s + log s` along a differentiable, non-vanishing `s`: the one-dimensional Gaussian energy
    as a function of its width. -/
theorem hasDerivAt_div_add_log {s : ℝ → ℝ} {s' a : ℝ} (hs : HasDerivAt s s' a) (h0 : s a ≠ 0)
    (q : ℝ) :
    HasDerivAt (fun t => q / s t + Real.log (s t)) (s' * (1 / s a - q / (s a * s a))) a := by
  have h := ((hasDerivAt_const a q).fun_div hs h0).fun_add (hs.log h0)
  exact h.congr_deriv (by ring)

end Umap
