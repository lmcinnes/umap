/-
  UmapProofs.Bracket — the bracket update shared by the two bisections of the model.

  `Knn.bisectStep` (the bandwidth search of `smooth_knn_dist`) and the loop body of `reprocess_row`
  (`C18.reprocessStep`, at the end of this file) are the same update of `(lo, hi, mid, done)`,
  driven by two tests on `mid`: whether to stop, and on which side of the target the probe fell.
  What does not depend on the probed function — the five cases of a step (`bracketStep_cases`), the
  order `0 ≤ lo < mid < hi`, and that a stop is final — is proved here once.
-/
import UmapProofs.Basic
import UmapModel.Knn

namespace Umap
namespace Bracket

section
variable {K : Type} [Field K]

/-- one bisection update: keep a stopped state, stop, or move the bracket down / up. -/
def bracketStep (stop down : Bool) (s : Knn.BState K) : Knn.BState K :=
  if s.done then s else
  if stop then { s with done := true }
  else if down then { s with hi := some s.mid, mid := (s.lo + s.mid) / (1 + 1) }
  else match s.hi with
    | none => { s with lo := s.mid, mid := s.mid * (1 + 1) }
    | some h => { s with lo := s.mid, mid := (s.mid + h) / (1 + 1) }

/-- the five things a step does: nothing (already stopped), stop, move the upper end down to `mid`,
    double (bracket open), move the lower end up to `mid` (bracket closed). -/
theorem bracketStep_cases (stop down : Bool) (s : Knn.BState K) :
    (s.done = true ∧ bracketStep stop down s = s)
    ∨ (s.done = false ∧ stop = true ∧ bracketStep stop down s = { s with done := true })
    ∨ (s.done = false ∧ stop = false ∧ down = true
        ∧ bracketStep stop down s = { s with hi := some s.mid, mid := (s.lo + s.mid) / 2 })
    ∨ (s.done = false ∧ stop = false ∧ down = false ∧ s.hi = none
        ∧ bracketStep stop down s = { s with lo := s.mid, mid := s.mid * 2 })
    ∨ (s.done = false ∧ stop = false ∧ down = false ∧ ∃ h, s.hi = some h
        ∧ bracketStep stop down s = { s with lo := s.mid, mid := (s.mid + h) / 2 }) := by
  unfold bracketStep
  rw [one_add_one_eq_two]
  rcases Bool.eq_false_or_eq_true s.done with hd | hd
  · exact Or.inl ⟨hd, if_pos hd⟩
  rw [if_neg (Bool.eq_false_iff.1 hd)]
  cases stop with
  | true => exact Or.inr (Or.inl ⟨hd, rfl, rfl⟩)
  | false =>
    cases down with
    | true => exact Or.inr (Or.inr (Or.inl ⟨hd, rfl, rfl, rfl⟩))
    | false =>
      cases hh : s.hi with
      | none => exact Or.inr (Or.inr (Or.inr (Or.inl ⟨hd, rfl, rfl, rfl, rfl⟩)))
      | some h => exact Or.inr (Or.inr (Or.inr (Or.inr ⟨hd, rfl, rfl, h, rfl, rfl⟩)))

/-- a step stops only on `stop`, at the probed `mid`. -/
theorem bracketStep_done_inv {P : K → Prop} (stop down : Bool) (s : Knn.BState K)
    (hs : s.done = true → P s.mid) (hstop : stop = true → P s.mid) :
    (bracketStep stop down s).done = true → P (bracketStep stop down s).mid := by
  rcases bracketStep_cases stop down s with
    ⟨_, e⟩ | ⟨_, hst, e⟩ | ⟨hd, _, _, e⟩ | ⟨hd, _, _, _, e⟩ | ⟨hd, _, _, _, _, e⟩ <;> rw [e]
  · exact hs
  · exact fun _ => hstop hst
  all_goals exact fun h => absurd h (Bool.eq_false_iff.1 hd)

variable [LinearOrder K]

theorem bisectStep_eq (T : Transc K) (tol target : K) (r : Ext K) (ds : List (Option K))
    (s : Knn.BState K) :
    Knn.bisectStep T tol target r ds s
      = bracketStep (decide (absV (Knn.psum T r s.mid ds - target) < tol))
          (decide (target < Knn.psum T r s.mid ds)) s := by
  unfold Knn.bisectStep bracketStep
  simp only [decide_eq_true_eq]
  rfl

/-- `0 ≤ lo < mid < hi`. -/
def Bracket (s : Knn.BState K) : Prop :=
  0 ≤ s.lo ∧ s.lo < s.mid ∧ ∀ h, s.hi = some h → s.mid < h

variable [IsStrictOrderedRing K]

/-- the search starts from `(lo, hi, mid) = (0, ∞, 1)`. -/
theorem bracket_init : Bracket (Knn.bisectInit : Knn.BState K) :=
  ⟨le_rfl, zero_lt_one, fun _ h => nomatch h⟩

theorem bracket_step (stop down : Bool) (s : Knn.BState K) (h : Bracket s) :
    Bracket (bracketStep stop down s) := by
  obtain ⟨h0, h1, h2⟩ := h
  rcases bracketStep_cases stop down s with
    ⟨_, e⟩ | ⟨_, _, e⟩ | ⟨_, _, _, e⟩ | ⟨_, _, _, hn, e⟩ | ⟨_, _, _, hv, hhi, e⟩ <;> rw [e]
  · exact ⟨h0, h1, h2⟩
  · exact ⟨h0, h1, h2⟩
  · -- down: `lo < (lo + mid)/2 < mid`, and `mid` is the new `hi`
    exact ⟨h0, left_lt_add_div_two.2 h1, fun h hh => Option.some.inj hh ▸ add_div_two_lt_right.2 h1⟩
  · exact ⟨h0.trans h1.le, lt_mul_of_one_lt_right (h0.trans_lt h1) one_lt_two,
      fun h hh => nomatch hn.symm.trans hh⟩
  · have hm := h2 hv hhi
    exact ⟨h0.trans h1.le, left_lt_add_div_two.2 hm,
      fun h hh => Option.some.inj (hhi.symm.trans hh) ▸ add_div_two_lt_right.2 hm⟩

end
end Bracket

/-! ### the loop of `reprocess_row` (`Graph.reprocessRow`) as such a search

  The model's loop body, named, so that the properties of the returned row (`UmapProps/C18*.lean`) and the
  correspondence with the translated source (`UmapProps/UmapSrcProofs.lean`) speak of the same step. -/

namespace C18
open Graph

section
variable {K : Type} [Field K] [LinearOrder K] [IsStrictOrderedRing K]

/-- one iteration of the loop of `reprocess_row` (verbatim the `step` of the model). -/
def reprocessStep (T : Transc K) (tol target : K) (ps : List K) (s : Knn.BState K) (_ : Nat) :
    Knn.BState K :=
  if s.done then s else
  let p := sumL (ps.map (fun x => T.pow x s.mid))
  if absV (p - target) < tol then { s with done := true }
  else if p < target then { s with hi := some s.mid, mid := (s.lo + s.mid) / (1 + 1) }
  else match s.hi with
    | none => { s with lo := s.mid, mid := s.mid * (1 + 1) }
    | some h => { s with lo := s.mid, mid := (s.mid + h) / (1 + 1) }

/-- the bisection state after `n` iterations (`done` = the `break` was taken). -/
def reprocessState (T : Transc K) (tol target : K) (n : Nat) (ps : List K) : Knn.BState K :=
  (List.range n).foldl (reprocessStep T tol target ps) Knn.bisectInit

end

section
variable {K : Type} [Field K] [LinearOrder K]

theorem reprocessRow_eq_state (T : Transc K) (tol target : K) (n : Nat) (ps : List K) :
    reprocessRow T tol target n ps
      = ps.map (fun x => T.pow x (reprocessState T tol target n ps).mid) := rfl

/-- the step is `bracketStep`, probing `Σ p ^ mid`: stop within
    `tol` of the target, move down when the sum is below it (a larger exponent lowers the sum). -/
theorem reprocessStep_eq (T : Transc K) (tol target : K) (ps : List K) (s : Knn.BState K)
    (k : Nat) :
    reprocessStep T tol target ps s k
      = Bracket.bracketStep
          (decide (absV (sumL (ps.map fun x => T.pow x s.mid) - target) < tol))
          (decide (sumL (ps.map fun x => T.pow x s.mid) < target)) s := by
  unfold reprocessStep Bracket.bracketStep
  simp only [decide_eq_true_eq]

/-- a stopped state is a fixed point of the step (this is the `break`). -/
theorem reprocessStep_of_done (T : Transc K) (tol target : K) (ps : List K) (s : Knn.BState K)
    (k : Nat) (h : s.done = true) : reprocessStep T tol target ps s k = s :=
  if_pos h

variable [IsStrictOrderedRing K]

theorem bracket_state (T : Transc K) (tol target : K) (n : Nat) (ps : List K) :
    Bracket.Bracket (reprocessState T tol target n ps) :=
  foldl_inv Bracket.Bracket _
    (fun s k h => by rw [reprocessStep_eq]; exact Bracket.bracket_step _ _ s h) _ _
    Bracket.bracket_init

end
end C18
end Umap
