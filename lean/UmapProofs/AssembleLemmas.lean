/-
  UmapProofs.AssembleLemmas — lemmas about `Graph.assemble` (the directed membership matrix built
  from the per-row output of `Knn.memberRow`) and `Graph.memberRows`.  The raw triples ask nothing
  of the values; from `assembled` on they are a field with a linear order (the zero test of
  `elimZeros`, the comparisons inside `memberExt`).
-/
import UmapProofs.GraphLemmas

namespace Umap
namespace Graph

variable {K : Type}

/-- a row of the directed membership table, as produced by `Knn.memberRow`. -/
abbrev MRow (K : Type) := List (Option (Nat × Option K))

/-- the `(row, col, strength)` triples before the NaN check and `eliminate_zeros`. -/
def rawTriples (rows : List (MRow K)) : List (Nat × Nat × Option K) :=
  (rows.zipIdx.map fun (row, i) =>
      row.filterMap (fun e => e.map (fun (c, v) => (i, c, v)))).flatten

theorem mem_rawTriples (rows : List (MRow K)) (i j : Nat) (v : Option K) :
    (i, j, v) ∈ rawTriples rows ↔ ∃ row, rows[i]? = some row ∧ some (j, v) ∈ row := by
  unfold rawTriples
  simp only [List.mem_flatten, List.mem_map, Prod.exists, List.mk_mem_zipIdx_iff_getElem?]
  constructor
  · rintro ⟨l, ⟨row, i', hrow, rfl⟩, hmem⟩
    obtain ⟨e, he, heq⟩ := List.mem_filterMap.1 hmem
    obtain ⟨⟨c, w⟩, rfl, h⟩ := Option.map_eq_some_iff.1 heq
    cases h
    exact ⟨row, hrow, he⟩
  · rintro ⟨row, hrow, hmem⟩
    exact ⟨_, ⟨row, i, hrow, rfl⟩, List.mem_filterMap.2 ⟨some (j, v), hmem, rfl⟩⟩

variable [Field K] [LinearOrder K]

/-- the matrix `assemble` returns when no strength is NaN. -/
def assembled (rows : List (MRow K)) : Coo K :=
  elimZeros ((rawTriples rows).filterMap (fun t => t.2.2.map (fun v => (t.1, t.2.1, v))))

theorem assemble_eq (rows : List (MRow K)) :
    assemble rows =
      if (rawTriples rows).any (fun t => t.2.2.isNone) then none else some (assembled rows) := rfl

/-- no strength is NaN. -/
def NoNan (rows : List (MRow K)) : Prop := ∀ row ∈ rows, ∀ c, some (c, none) ∉ row

theorem assemble_of_noNan (rows : List (MRow K)) (h : NoNan rows) :
    assemble rows = some (assembled rows) := by
  rw [assemble_eq, if_neg]
  rw [List.any_eq_true]
  rintro ⟨⟨i, j, v⟩, hm, hv⟩
  cases v with
  | some v => simp at hv
  | none =>
    obtain ⟨row, hrow, hmem⟩ := (mem_rawTriples rows i j none).1 hm
    exact h row (List.mem_of_getElem? hrow) j hmem

theorem assemble_eq_some_iff (rows : List (MRow K)) (A : Coo K) :
    assemble rows = some A ↔ NoNan rows ∧ A = assembled rows := by
  constructor
  · intro h
    rw [assemble_eq] at h
    split_ifs at h with hany
    simp only [Option.some.injEq] at h
    refine ⟨?_, h.symm⟩
    intro row hrow c hc
    apply hany
    rw [List.any_eq_true]
    obtain ⟨i, hi, rfl⟩ := List.mem_iff_getElem.1 hrow
    exact ⟨(i, c, none), (mem_rawTriples rows i c none).2 ⟨_, List.getElem?_eq_getElem hi, hc⟩, rfl⟩
  · rintro ⟨h, rfl⟩
    exact assemble_of_noNan rows h

theorem mem_assembled (rows : List (MRow K)) (i j : Nat) (v : K) :
    (i, j, v) ∈ assembled rows ↔
      v ≠ 0 ∧ ∃ row, rows[i]? = some row ∧ some (j, some v) ∈ row := by
  unfold assembled
  rw [mem_elimZeros, List.mem_filterMap, and_comm]
  refine and_congr_right fun _ => ?_
  constructor
  · rintro ⟨⟨a, b, w⟩, hm, heq⟩
    cases w with
    | none => simp at heq
    | some w =>
      cases heq
      exact (mem_rawTriples rows _ _ _).1 hm
  · exact fun hrow => ⟨(i, j, some v), (mem_rawTriples rows i j (some v)).2 hrow, rfl⟩

/-- `graphOfKnn` is `(assemble rows).map (symmetrize r)`: it succeeds exactly when no strength is NaN. -/
theorem assemble_map_eq_some_iff {β : Type} (rows : List (MRow K)) (f : Coo K → β) (G : β) :
    (assemble rows).map f = some G ↔ NoNan rows ∧ G = f (assembled rows) := by
  rw [Option.map_eq_some_iff]
  simp only [assemble_eq_some_iff, and_assoc, exists_and_left, exists_eq_left, @eq_comm _ G]

/-- the columns of a row are pairwise distinct. -/
def RowDistinct (row : MRow K) : Prop := (row.filterMap (Option.map Prod.fst)).Nodup

theorem nodup_assembled (rows : List (MRow K)) (h : ∀ row ∈ rows, RowDistinct row) :
    NoDup (assembled rows) := by
  refine noDup_elimZeros ?_
  unfold NoDup List.Nodup
  rw [List.pairwise_map]
  have hraw : (rawTriples rows).Pairwise (fun t t' => (t.1, t.2.1) ≠ (t'.1, t'.2.1)) := by
    unfold rawTriples
    rw [List.pairwise_flatten]
    constructor
    · intro l hl
      obtain ⟨⟨row, i⟩, hri, rfl⟩ := List.mem_map.1 hl
      have hrow : row ∈ rows := (List.mem_zipIdx' hri).2 ▸ List.getElem_mem _
      refine List.Pairwise.filterMap _ ?_ (List.pairwise_filterMap.1 (h row hrow))
      intro e e' hR t ht t' ht' heq
      obtain ⟨⟨c, v⟩, rfl, rfl⟩ := Option.map_eq_some_iff.1 ht
      obtain ⟨⟨c', v'⟩, rfl, rfl⟩ := Option.map_eq_some_iff.1 ht'
      exact hR c rfl c' rfl (Prod.mk.inj heq).2
    · rw [List.pairwise_map]
      have hidx : (rows.zipIdx).Pairwise (fun a b => a.2 ≠ b.2) := by
        have := List.nodup_range' (s := 0) (n := rows.length) (step := 1)
        rw [← List.zipIdx_map_snd 0 rows] at this
        exact List.pairwise_map.1 this
      refine hidx.imp ?_
      rintro ⟨row, i⟩ ⟨row', i'⟩ hne t ht t' ht' heq
      obtain ⟨e, _, he⟩ := List.mem_filterMap.1 ht
      obtain ⟨e', _, he'⟩ := List.mem_filterMap.1 ht'
      obtain ⟨_, rfl, rfl⟩ := Option.map_eq_some_iff.1 he
      obtain ⟨_, rfl, rfl⟩ := Option.map_eq_some_iff.1 he'
      exact hne (Prod.mk.inj heq).1
  refine List.Pairwise.filterMap _ ?_ hraw
  intro t t' hR u hu u' hu'
  obtain ⟨_, _, rfl⟩ := Option.map_eq_some_iff.1 hu
  obtain ⟨_, _, rfl⟩ := Option.map_eq_some_iff.1 hu'
  exact hR

/-- one entry of `Knn.memberRow` (non-bipartite case) as a function of the `(index, distance)` pair. -/
def memberEntry (T : Transc K) (self : Nat) (sigma : K) (r : Ext K)
    (p : Option Nat × Option K) : Option (Nat × Option K) :=
  match p.1 with
  | none => none
  | some c =>
    if c = self then some (c, some 0)
    else match p.2 with
      | some d => some (c, Knn.memberExt T d r sigma)
      | none => some (c, match r with
          | .fin _ => some 0
          | .inf => none
          | .nan => none)

theorem memberRow_eq (T : Transc K) (self : Nat) (sigma : K) (r : Ext K)
    (ix : List (Option Nat)) (d : List (Option K)) :
    Knn.memberRow T false self sigma r ix d = (ix.zip d).map (memberEntry T self sigma r) := by
  refine List.map_congr_left fun ⟨i, x⟩ _ => ?_
  cases i with
  | none => rfl
  -- the two differ in how the diagonal test is written: `!false && c == self` against `c = self`
  | some c => exact if_congr (by rw [Bool.not_false, Bool.true_and, beq_iff_eq]) rfl rfl

/-- an entry keeps the column index of its pair (a skipped column stays skipped). -/
theorem memberEntry_fst (T : Transc K) (self : Nat) (sigma : K) (r : Ext K)
    (p : Option Nat × Option K) : (memberEntry T self sigma r p).map Prod.fst = p.1 := by
  obtain ⟨i, x⟩ := p
  unfold memberEntry
  cases i with
  | none => rfl
  | some c =>
    simp only
    split_ifs
    · rfl
    · cases x <;> rfl

theorem map_fst_zip_sublist {β γ : Type} (l : List β) (l' : List γ) :
    ((l.zip l').map Prod.fst).Sublist l := by
  induction l generalizing l' with
  | nil => exact List.Sublist.slnil
  | cons a l ih =>
    cases l' with
    | nil => exact List.nil_sublist _
    | cons b l' => exact (ih l').cons_cons a

theorem rowDistinct_memberEntry (T : Transc K) (self : Nat) (sigma : K) (r : Ext K)
    (ix : List (Option Nat)) (d : List (Option K)) (h : (ix.filterMap id).Nodup) :
    RowDistinct ((ix.zip d).map (memberEntry T self sigma r)) := by
  unfold RowDistinct
  -- the column indices of the entries are those of the zipped pairs, a sublist of `ix`
  have e : Option.map Prod.fst ∘ memberEntry T self sigma r = id ∘ Prod.fst :=
    funext (memberEntry_fst T self sigma r)
  rw [List.filterMap_map, e, ← List.filterMap_map]
  exact ((map_fst_zip_sublist ix d).filterMap id).nodup h

section
variable {T : Transc K} {tol minScale target : K} {lcIdx : Nat} {lcFrac : K} {nIter : Nat}
  {idx : List (List (Option Nat))} {ds : List (List (Option K))} {i : Nat}

theorem memberRows_getElem? :
    (memberRows T tol minScale target lcIdx lcFrac nIter idx ds)[i]? =
      (idx[i]?).bind fun ix => (ds[i]?).map fun d =>
        Knn.memberRow T false i
          (Knn.smoothKnnRow T tol minScale target lcIdx lcFrac nIter (Knn.finiteMean ds.flatten) d).1
          (Knn.rho tol lcIdx lcFrac d)
          ix d := by
  unfold memberRows Knn.smoothKnn
  rw [List.getElem?_map, List.getElem?_zipIdx, List.zip_eq_zipWith, List.zip_eq_zipWith,
    List.getElem?_zipWith', List.getElem?_zipWith', List.getElem?_map]
  cases idx[i]? with
  | none => rfl
  | some ix =>
    cases ds[i]? with
    | none => rfl
    | some d => simp only [Option.map_some, Option.bind_some, Nat.zero_add]; rfl

/-- row `i` of the membership table exists exactly when both tables have a row `i`; its entries
    are the `memberEntry` of the zipped pairs, with the bandwidth and rho of that distance row. -/
theorem memberRows_getElem?_eq_some {row : MRow K} :
    (memberRows T tol minScale target lcIdx lcFrac nIter idx ds)[i]? = some row ↔
      ∃ ix d, idx[i]? = some ix ∧ ds[i]? = some d ∧ row = (ix.zip d).map (memberEntry T i
        (Knn.smoothKnnRow T tol minScale target lcIdx lcFrac nIter (Knn.finiteMean ds.flatten) d).1
        (Knn.rho tol lcIdx lcFrac d)) := by
  simp only [memberRows_getElem?, bind_map_eq_some_iff, memberRow_eq]

end

end Graph
end Umap
