/-
  UmapProofs.SparseSrcPack — how `pack` / `unpack` / `Canon` of `SparseSrcSpec.lean` interact with `map`,
  `length`, `vals` and membership.  These need `ind.length = data.length` only; the other half of `Canon`, the sorted
  indices, is what `sorted_pack`, `Canon.nodup` and `row_pack` hand over to the model's `C13.Sorted` / `C13.Row`.
-/
import UmapProofs.SparseSrcSpec
import UmapProofs.SparseMerge

namespace Umap
namespace SparseSrcSpec
open Sparse

variable {α : Type} {ind : List Nat} {data : List α}

theorem map_fst_pack (h : ind.length = data.length) : (pack ind data).map (·.1) = ind :=
  List.map_fst_zip (Nat.le_of_eq h)

theorem vals_pack (h : ind.length = data.length) : vals (pack ind data) = data :=
  List.map_snd_zip (Nat.le_of_eq h.symm)

theorem length_pack (h : ind.length = data.length) : (pack ind data).length = ind.length := by
  rw [pack, List.length_zip, ← h, Nat.min_self]

theorem pack_map (ind : List Nat) (data : List α) (f : α → α) :
    pack ind (data.map f) = (pack ind data).map (fun p => (p.1, f p.2)) := by
  unfold pack
  rw [List.zip_map_right]
  rfl

theorem pack_unpack (v : SVec α) : pack (unpack v).1 (unpack v).2 = v := by
  unfold pack unpack
  induction v with
  | nil => rfl
  | cons p v ih => exact congrArg (p :: ·) ih

theorem Canon.map (f : α → α) (h : Canon ind data) : Canon ind (data.map f) :=
  ⟨by rw [List.length_map]; exact h.1, h.2⟩

theorem sorted_pack (h : Canon ind data) : C13.Sorted (pack ind data) := by
  unfold C13.Sorted; rw [map_fst_pack h.1]; exact h.2

theorem Canon.nodup (h : Canon ind data) : ind.Nodup := h.2.imp Nat.ne_of_lt

theorem mem_pack_bound (n : Nat) (h : ind.length = data.length) (hb : ∀ k ∈ ind, k < n) :
    ∀ p ∈ pack ind data, p.1 < n := by
  intro p hp
  apply hb
  rw [← map_fst_pack h]
  exact List.mem_map_of_mem hp

theorem row_pack {n : Nat} (h : Canon ind data) (hb : ∀ k ∈ ind, k < n) : C13.Row n (pack ind data) :=
  ⟨sorted_pack h, mem_pack_bound n h.1 hb⟩

theorem vals_pack_forall {P : α → Prop} (h : ∀ v ∈ data, P v) : ∀ p ∈ pack ind data, P p.2 := by
  intro p hp
  obtain ⟨i, a⟩ := p
  exact h a (List.of_mem_zip hp).2

theorem any_pack (h : ind.length = data.length) (i : Nat) :
    (pack ind data).any (·.1 == i) = ind.contains i := by
  have : (pack ind data).any (·.1 == i) = ((pack ind data).map (·.1)).any (· == i) := by
    rw [List.any_map]; rfl
  rw [this, map_fst_pack h, List.contains_eq_any_beq]
  congr 1
  funext a
  exact Bool.beq_comm

end SparseSrcSpec
end Umap
