/-
  UmapProofs.SrcLemmas — how a source-tie theorem `Src.f = Model.f` is proved.

  The translator emits index loops (`(List.range n).foldl (fun st i => … x.getD i 0 …) s`, `a.set i v` for every
  `i`); the hand-written model uses list combinators (`zip`, `map`, `sumL`).  No algebra on the scalars is involved:
  everything here holds for any type.

  Index form.  Both sides are brought to one normal form, `(List.range n).map (fun i => …)` and folds over
  `List.range n`.  A list is the map of its own index function (`map_range_getD_self`); `zip_eq_map_range`,
  `map_eq_map_range`, `foldl_eq_foldl_range`, `zipWith_eq_map_range` are its corollaries, `List.foldl_map`,
  `List.map_map`, `List.zip_map'` fuse what results, and `simp only` compares the two loop bodies.

  It is the MODEL side that is rewritten.  The left sides `x.zip y`, `x.map f`, `x.foldl g s` are first-order
  patterns, so no loop body has to be written out, and the source's body is only ever looked at by `simp`, which sees
  through a body-level rewrite of the Python text (a temporary variable, `d * d` for `d ** 2`).  Going the other way
  the body would have to be matched against `fun st i => g st (x.getD i 0) (y.getD i 0)`, which is not a pattern:
  `g` would have to be given, and would have to be given again after every such rewrite.
  A loop with several accumulators that are running sums (`a += f i; b += g i`) splits the same way, by the `simp`
  lemmas `foldl_add_pair`, `foldl_add_triple` (`?f i` is a pattern).  What still has to be spelled out is the splitting
  of a loop whose accumulators are updated otherwise (`foldl_pair`, `foldl_triple`, `foldl_pair_cond`) and a store loop
  whose stored value depends on the old cell (`foldl_update`): there the body is an argument.

  One pass.  A source kernel is `let (a, b) := loop₁; let c := loop₂ a b; …`.  Unfolding it and reducing the `let`s
  first turns `let (a, b) := loop; E a b` into `E loop.1 loop.2`: every loop is copied to each use of its result,
  loops nest inside the bodies of later loops, and each later rewrite has to walk all the copies.  So the facts
  about the loops (`foldl_add_pair`, or `have l := foldl_pair (List.range n) (fun s i => …) …`, universally quantified
  over scalars that are bound later) are handed to the SAME `simp only` call that unfolds `Src.f`: `simp` rewrites
  the loop in the discriminant to a literal tuple before it reduces the `match`, and nothing is duplicated.
  A loop body that reads a list computed earlier (by then in index form) at its own index is resolved in a second
  pass, `simp (config := {contextual := true}) only [getD_map_range]` with `map_range_congr`, `foldl_range_congr` as
  `congr` rules, which supply `i < n`.

  The library lemmas every such `simp only` call draws from (take the ones the kernel needs: under one simp
  attribute every call tries all of them, which is slower to check): `List.foldl_map` (a fold over a map is a fold),
  `List.map_map` with `Function.comp_def` (maps fuse), `List.zip_map'` (a zip of two maps over the same range is one
  map), `List.zipWith_map_left`, `List.zipWith_map_right`, `List.zipWith_self` (the same for vector expressions),
  `List.map_const'` with `List.length_range` (`np.zeros(n)` against the model's `x.map fun _ => 0`), `Prod.mk.eta`
  (a tuple rebuilt from its projections), and the model's `sumL`.

  Where to start with a new kernel — read the one with the same loop shape first:
  one accumulator `C12SrcA.euclidean_src`; several accumulators, a later loop using the results of an earlier one
  `C12SrcA.correlation_src`; `out = np.zeros(n)` filled by a loop `C14SrcA.minkowskiGrad_src` (`foldl_set_replicate`);
  a store guarded by `if` `C14SrcA.canberraGrad_src_generic` (`foldl_pair_cond`, `foldl_set_if`), by an `if`/`elif`
  chain `UmapSrcProofs.fastIntersection_src` (`set_ite`, `ite_set`, `foldl_update`); a store the same iteration reads
  back `C14SrcB.hellingerGrad_src_generic` (`foldl_set_acc`); a loop reading a list an earlier loop computed
  `C14SrcB.symmetricKlGrad_src`; nested loops with `a[i] += …` `C14SrcA.mahalanobisGrad_src_generic`
  (`foldl_slot`); fixed-length vectors `C14SrcB.diagonalGaussianEnergyGrad_src`; float counters against the model's
  `ℕ` counts `C12SrcB.jaccard_src`; a loop with a state and a `break` (bisection) `UmapSrcProofs.reprocessRow_src`
  (`foldl_range_enc`: encode the model state, keep an invariant); in-place updates of matrix rows
  `UmapSrcProofs.iuLoop_eq`, `UmapSrcProofs.initTransform_src` (with `UmapProofs/UmapSrcLemmas.lean`); a loop over
  `range(lo, n)` whose body is a store only on the states the loop reaches `UmapSrcProofs.initUpdate_src`
  (`foldl_range_enc id` under the invariant, then `foldl_update_from`); a double loop storing into a flat buffer at
  `i * k + j` `C01Src.computeMembershipStrengths_grid` (`foldl_range_mul`, with `UmapProofs/C01SrcLemmas.lean`).
-/
import Mathlib.Data.List.Range

namespace Umap
namespace SrcLemmas

variable {α β γ δ σ : Type}

theorem map_range_getD_self {n : Nat} (x : List α) (d : α) (h : x.length = n) :
    (List.range n).map (fun i => x.getD i d) = x := by
  subst h
  refine List.ext_getElem (by rw [List.length_map, List.length_range]) fun i _ h2 => ?_
  rw [List.getElem_map, List.getElem_range, List.getD_eq_getElem?_getD, List.getElem?_eq_getElem h2,
    Option.getD_some]

theorem map_eq_map_range {n : Nat} (x : List α) (d : α) (h : x.length = n) (f : α → γ) :
    x.map f = (List.range n).map (fun i => f (x.getD i d)) := by
  conv_lhs => rw [← map_range_getD_self x d h, List.map_map]
  rfl

theorem map_range_getD (x : List α) (dx : α) (f : α → γ) :
    (List.range x.length).map (fun i => f (x.getD i dx)) = x.map f :=
  (map_eq_map_range x dx rfl f).symm

theorem foldl_eq_foldl_range {n : Nat} (x : List α) (d : α) (h : x.length = n) (g : σ → α → σ)
    (s : σ) : x.foldl g s = (List.range n).foldl (fun st i => g st (x.getD i d)) s := by
  conv_lhs => rw [← map_range_getD_self x d h, List.foldl_map]

theorem zip_eq_map_range {n : Nat} (x : List α) (y : List β) (dx : α) (dy : β)
    (hx : x.length = n) (hy : y.length = n) :
    x.zip y = (List.range n).map (fun i => (x.getD i dx, y.getD i dy)) := by
  conv_lhs => rw [← map_range_getD_self x dx hx, ← map_range_getD_self y dy hy]
  exact List.zip_map' ..

theorem zipWith_eq_map_range {n : Nat} (f : α → β → γ) (x : List α) (y : List β) (dx : α) (dy : β)
    (hx : x.length = n) (hy : y.length = n) :
    List.zipWith f x y = (List.range n).map (fun i => f (x.getD i dx) (y.getD i dy)) := by
  conv_lhs => rw [← map_range_getD_self x dx hx, ← map_range_getD_self y dy hy]
  rw [List.zipWith_map_left, List.zipWith_map_right, List.zipWith_self]

/-- index form is closed under `zip` with a plain list -/
theorem map_range_zip {n : Nat} (f : Nat → α) (w : List β) (dw : β) (hw : w.length = n) :
    ((List.range n).map f).zip w = (List.range n).map (fun i => (f i, w.getD i dw)) := by
  conv_lhs => rw [← map_range_getD_self w dw hw]
  exact List.zip_map' ..

theorem zip_map_range {n : Nat} (x : List α) (f : Nat → β) (dx : α) (hx : x.length = n) :
    x.zip ((List.range n).map f) = (List.range n).map (fun i => (x.getD i dx, f i)) := by
  conv_lhs => rw [← map_range_getD_self x dx hx]
  exact List.zip_map' ..

theorem getD_map_range {n i : Nat} (f : Nat → α) (d : α) (hi : i < n) :
    ((List.range n).map f).getD i d = f i := by
  rw [List.getD_eq_getElem?_getD, List.getElem?_map, List.getElem?_range hi]
  rfl

theorem getD_mem {l : List α} {i : Nat} {d : α} (hi : i < l.length) : l.getD i d ∈ l := by
  rw [List.getD_eq_getElem?_getD, List.getElem?_eq_getElem hi]
  exact List.getElem_mem hi

/-- inside a loop over `range n` the index is below `n` -/
theorem map_range_congr {n : Nat} {f g : Nat → α} (h : ∀ i, i < n → f i = g i) :
    (List.range n).map f = (List.range n).map g :=
  List.map_congr_left fun i hi => h i (List.mem_range.mp hi)

theorem foldl_range_congr {n : Nat} {f g : σ → Nat → σ} {s t : σ} (hs : s = t)
    (h : ∀ st i, i < n → f st i = g st i) :
    (List.range n).foldl f s = (List.range n).foldl g t :=
  hs ▸ List.foldl_ext _ _ _ fun st i hi => h st i (List.mem_range.mp hi)

theorem mul_add_div_of_lt {k j : Nat} (i : Nat) (hj : j < k) : (i * k + j) / k = i := by
  rw [Nat.mul_comm, Nat.mul_add_div (Nat.zero_lt_of_lt hj), Nat.div_eq_of_lt hj, Nat.add_zero]

/-- `for i in range(n): for j in range(k): …` is one loop over the cells `p = i * k + j` of an `n × k` table -/
theorem foldl_range_mul (f : σ → Nat → Nat → σ) (n k : Nat) (s : σ) :
    (List.range n).foldl (fun st i => (List.range k).foldl (fun st j => f st i j) st) s
      = (List.range (n * k)).foldl (fun st p => f st (p / k) (p % k)) s := by
  induction n with
  | zero => rw [Nat.zero_mul]; rfl
  | succ n ih =>
    rw [List.range_succ, List.foldl_append, ih, Nat.succ_mul, List.range_add, List.foldl_append,
      List.foldl_map, List.foldl_cons, List.foldl_nil]
    exact foldl_range_congr rfl fun st j hj => by
      rw [mul_add_div_of_lt n hj, Nat.mul_add_mod_of_lt hj]

/-- `for i in range(lo, n)` is `for i in range(n): if lo <= i` -/
theorem foldl_range_from (f : σ → Nat → σ) (lo n : Nat) (s : σ) :
    (List.range (n - lo)).foldl (fun st t => f st (lo + t)) s
      = (List.range n).foldl (fun st i => if lo ≤ i then f st i else st) s := by
  induction n with
  | zero => rw [Nat.zero_sub]; rfl
  | succ n ih =>
    rw [List.range_succ (n := n), List.foldl_append, ← ih, List.foldl_cons, List.foldl_nil]
    by_cases h : lo ≤ n
    · rw [if_pos h, Nat.succ_sub h, List.range_succ, List.foldl_append, List.foldl_cons, List.foldl_nil,
        Nat.add_sub_cancel' h]
    · rw [if_neg h, Nat.sub_eq_zero_of_le (Nat.le_of_not_le h), Nat.sub_eq_zero_of_le (Nat.lt_of_not_le h)]

theorem foldl_pair (l : List γ) (g₁ : α → γ → α) (g₂ : β → γ → β) (a : α) (b : β) :
    l.foldl (fun (st : α × β) p => (g₁ st.1 p, g₂ st.2 p)) (a, b) = (l.foldl g₁ a, l.foldl g₂ b) :=
  List.foldl_hom₂ l Prod.mk g₁ g₂ _ a b fun _ _ _ => rfl

/-- a triple is a pair whose second half is a pair -/
theorem foldl_triple (l : List δ) (g₁ : α → δ → α) (g₂ : β → δ → β) (g₃ : γ → δ → γ)
    (a : α) (b : β) (c : γ) :
    l.foldl (fun (st : α × β × γ) p => (g₁ st.1 p, g₂ st.2.1 p, g₃ st.2.2 p)) (a, b, c)
      = (l.foldl g₁ a, l.foldl g₂ b, l.foldl g₃ c) := by
  rw [← foldl_pair l g₂ g₃]
  exact foldl_pair l g₁ (fun (st : β × γ) p => (g₂ st.1 p, g₃ st.2 p)) a (b, c)

/-- a loop whose accumulators are running sums (`a += f i; b += g i`) splits without its body being written out: as a
    `simp` lemma this needs no instantiation (`?f i` is a pattern; the `g₁ st.1 p` of `foldl_pair` is not) -/
theorem foldl_add_pair {α β γ : Type} [Add α] [Add β] (l : List γ) (f : γ → α) (g : γ → β)
    (a : α) (b : β) :
    l.foldl (fun (st : α × β) i => (st.1 + f i, st.2 + g i)) (a, b)
      = (l.foldl (fun s i => s + f i) a, l.foldl (fun s i => s + g i) b) :=
  foldl_pair l (fun s i => s + f i) (fun s i => s + g i) a b

theorem foldl_add_triple {α β γ δ : Type} [Add α] [Add β] [Add γ] (l : List δ) (f : δ → α) (g : δ → β)
    (h : δ → γ) (a : α) (b : β) (c : γ) :
    l.foldl (fun (st : α × β × γ) i => (st.1 + f i, st.2.1 + g i, st.2.2 + h i)) (a, b, c)
      = (l.foldl (fun s i => s + f i) a, l.foldl (fun s i => s + g i) b, l.foldl (fun s i => s + h i) c) :=
  foldl_triple l (fun s i => s + f i) (fun s i => s + g i) (fun s i => s + h i) a b c

/-- a 4-tuple is a pair whose second half is a triple -/
theorem foldl_quad {ε : Type} (l : List ε) (g₁ : α → ε → α) (g₂ : β → ε → β) (g₃ : γ → ε → γ)
    (g₄ : δ → ε → δ) (a : α) (b : β) (c : γ) (d : δ) :
    l.foldl (fun (st : α × β × γ × δ) p => (g₁ st.1 p, g₂ st.2.1 p, g₃ st.2.2.1 p, g₄ st.2.2.2 p))
        (a, b, c, d)
      = (l.foldl g₁ a, l.foldl g₂ b, l.foldl g₃ c, l.foldl g₄ d) := by
  rw [← foldl_triple l g₂ g₃ g₄]
  exact foldl_pair l g₁ (fun (st : β × γ × δ) p => (g₂ st.1 p, g₃ st.2.1 p, g₄ st.2.2 p)) a (b, c, d)

theorem foldl_pair_cond (l : List γ) (c : γ → Prop) [DecidablePred c] (g₁ : α → γ → α)
    (g₂ : β → γ → β) (a : α) (b : β) :
    l.foldl (fun (st : α × β) p => if c p then (g₁ st.1 p, g₂ st.2 p) else st) (a, b)
      = (l.foldl (fun s p => if c p then g₁ s p else s) a,
         l.foldl (fun s p => if c p then g₂ s p else s) b) :=
  List.foldl_hom₂ l Prod.mk _ _ _ a b fun _ _ _ => by split <;> rfl

theorem ite_pair_snd (c : Prop) [Decidable c] (a : α) (b b' : β) :
    (if c then (a, b) else (a, b')) = (a, if c then b else b') :=
  (apply_ite (Prod.mk a) c b b').symm

theorem set_getD_self (st : List α) (i : Nat) (d : α) : st.set i (st.getD i d) = st := by
  by_cases hi : i < st.length
  · rw [List.getD_eq_getElem?_getD, List.getElem?_eq_getElem hi, Option.getD_some, List.set_getElem_self]
  · exact List.set_eq_of_length_le (Nat.le_of_not_lt hi)

theorem getD_set_self (st : List α) (i : Nat) (v d : α) (hi : i < st.length) :
    (st.set i v).getD i d = v := by
  rw [List.getD_eq_getElem?_getD, List.getElem?_set_self hi, Option.getD_some]

theorem getD_set_ne (st : List α) (i j : Nat) (v d : α) (hij : i ≠ j) :
    (st.set i v).getD j d = st.getD j d := by
  rw [List.getD_eq_getElem?_getD, List.getD_eq_getElem?_getD, List.getElem?_set_ne hij]

theorem getD_replicate_self (n i : Nat) (a : α) : (List.replicate n a).getD i a = a := by
  rw [List.getD_eq_getElem?_getD, List.getElem?_replicate]
  split <;> rfl

/-- a loop that only rewrites cell `i` from its own old value is that loop on the cell -/
theorem foldl_slot (F : γ → α → α) (l : List γ) (i : Nat) (d : α) (st : List α) :
    l.foldl (fun st x => st.set i (F x (st.getD i d))) st
      = st.set i (l.foldl (fun r x => F x r) (st.getD i d)) := by
  -- `st.set i` carries each step on the cell to the step on the array
  refine (congrArg (List.foldl _ · l) (set_getD_self st i d).symm).trans
    (List.foldl_hom (st.set i) fun r x => ?_)
  rw [List.set_set]
  by_cases hi : i < st.length
  · rw [getD_set_self _ _ _ _ hi]
  · have h := Nat.le_of_not_lt hi
    exact (List.set_eq_of_length_le h).trans (List.set_eq_of_length_le h).symm

/-- a guarded store is an in-place update -/
theorem set_ite (c : Prop) [Decidable c] (st : List α) (i : Nat) (v d : α) :
    (if c then st.set i v else st) = st.set i (if c then v else st.getD i d) := by
  split
  · rfl
  · exact (set_getD_self st i d).symm

theorem ite_set (c : Prop) [Decidable c] (st : List α) (i : Nat) (a b : α) :
    (if c then st.set i a else st.set i b) = st.set i (if c then a else b) :=
  (apply_ite (st.set i) c a b).symm

/-- THE store loop: every cell `i < n` is rewritten once, in place, from its own old value (`a[i] = H i a[i]`).
    Plain stores (`H i _ = f i`), guarded stores (`set_ite`) and `a[i] += …` are instances. -/
theorem foldl_update {n : Nat} (H : Nat → α → α) (d : α) (l0 : List α) (hn : l0.length = n) :
    (List.range n).foldl (fun st i => st.set i (H i (st.getD i d))) l0
      = (List.range n).map (fun i => H i (l0.getD i d)) := by
  subst hn
  induction l0 generalizing H with
  | nil => rfl
  | cons a l ih =>
    -- cell `0` first; the later steps leave it alone and act on the tail with indices shifted by one
    rw [List.length_cons, List.range_succ_eq_map, List.foldl_cons, List.foldl_map, List.map_cons,
      List.map_map]
    refine (List.foldl_hom (List.cons (H 0 a)) fun st i => ?_).trans
      (congrArg (List.cons (H 0 a)) (ih fun i => H (i + 1)))
    rfl

/-- the store loop on a fresh array `np.full(n, z)` (read with any default `d`) -/
theorem foldl_update_replicate (H : Nat → α → α) (d z : α) (n : Nat) :
    (List.range n).foldl (fun st i => st.set i (H i (st.getD i d))) (List.replicate n z)
      = (List.range n).map (fun i => H i z) := by
  rw [foldl_update H d _ (List.length_replicate ..)]
  exact map_range_congr fun i hi => by
    rw [List.getD_eq_getElem?_getD, List.getElem?_replicate, if_pos hi, Option.getD_some]

/-- `a = np.zeros(n); for i in range(n): a[i] = f i` is `map f (range n)` -/
theorem foldl_set {n : Nat} (f : Nat → α) (l0 : List α) (hn : l0.length = n) :
    (List.range n).foldl (fun st i => st.set i (f i)) l0 = (List.range n).map f :=
  foldl_update (fun i _ => f i) (f 0) l0 hn

/-- the same on a fresh array; as a `simp` lemma it needs no instantiation (`?f i` is a pattern) -/
theorem foldl_set_replicate (f : Nat → α) (n : Nat) (z : α) :
    (List.range n).foldl (fun st i => st.set i (f i)) (List.replicate n z) = (List.range n).map f :=
  foldl_set f _ (List.length_replicate ..)

/-- the same under a guard: `a = np.full(n, z); for i in range(n): if c i: a[i] = f i` -/
theorem foldl_set_if (c : Nat → Prop) [DecidablePred c] (f : Nat → α) (n : Nat) (z : α) :
    (List.range n).foldl (fun st i => if c i then st.set i (f i) else st) (List.replicate n z)
      = (List.range n).map (fun i => if c i then f i else z) := by
  simp only [set_ite _ _ _ _ z]
  exact foldl_update_replicate (fun i v => if c i then f i else v) z z n

/-- the store loop from `lo` on (`for i in range(lo, n): a[i] = H i a[i]`): a guarded store loop over all of
    `range n` -/
theorem foldl_update_from {n : Nat} (H : Nat → α → α) (d : α) (lo : Nat) (l0 : List α) (hn : l0.length = n) :
    (List.range (n - lo)).foldl (fun st t => st.set (lo + t) (H (lo + t) (st.getD (lo + t) d))) l0
      = (List.range n).map (fun i => if i < lo then l0.getD i d else H i (l0.getD i d)) := by
  refine (foldl_range_from (fun st i => st.set i (H i (st.getD i d))) lo n l0).trans ?_
  simp only [set_ite _ _ _ _ d]
  rw [foldl_update (fun i v => if lo ≤ i then H i v else v) d l0 hn]
  exact map_range_congr fun i _ => (if_congr Nat.not_lt.symm rfl rfl).trans (ite_not ..)

/-- If the concrete step commutes with an encoding `enc` of the abstract state on the states satisfying an
    invariant that the abstract step keeps, the two loops commute with `enc`. -/
theorem foldl_range_enc {τ : Type} (enc : τ → σ) (J : Nat → τ → Prop) (f : σ → Nat → σ)
    (g : τ → Nat → τ) (n : Nat)
    (hJ : ∀ i s, i < n → J i s → J (i + 1) (g s i))
    (hstep : ∀ i s, i < n → J i s → f (enc s) i = enc (g s i)) (s0 : τ) (h0 : J 0 s0) :
    (List.range n).foldl f (enc s0) = enc ((List.range n).foldl g s0) := by
  -- the induction carries the invariant along with the equation
  suffices h : (List.range n).foldl f (enc s0) = enc ((List.range n).foldl g s0)
      ∧ J n ((List.range n).foldl g s0) from h.1
  induction n with
  | zero => exact ⟨rfl, h0⟩
  | succ n ih =>
    obtain ⟨e, j⟩ := ih (fun i s hi => hJ i s (Nat.lt_succ_of_lt hi))
      (fun i s hi => hstep i s (Nat.lt_succ_of_lt hi))
    simp only [List.range_succ, List.foldl_append, List.foldl_cons, List.foldl_nil, e]
    exact ⟨hstep n _ (Nat.lt_succ_self n) j, hJ n _ (Nat.lt_succ_self n) j⟩

/-- a storing loop whose other accumulators read the cell just written
    (`grad_term[i] = …; result += grad_term[i]`) -/
theorem foldl_set_acc {n : Nat} (f : Nat → α) (d : α) (g : σ → Nat → α → σ) (l0 : List α) (s0 : σ)
    (hn : l0.length = n) :
    (List.range n).foldl (fun (st : List α × σ) i =>
        ((st.1.set i (f i)), g st.2 i ((st.1.set i (f i)).getD i d))) (l0, s0)
      = ((List.range n).map f, (List.range n).foldl (fun s i => g s i (f i)) s0) := by
  -- the buffer keeps its length, so the cell just written is in range and holds `f i`
  rw [← foldl_set f l0 hn, ← foldl_pair]
  exact foldl_range_enc id (fun _ (st : List α × σ) => st.1.length = n) _
    (fun st i => (st.1.set i (f i), g st.2 i (f i))) n
    (fun i st _ h => (List.length_set ..).trans h)
    (fun i st hi h => by rw [getD_set_self _ _ _ _ (h ▸ hi)]; rfl) (l0, s0) hn

theorem zipWith_zipWith_same {ε : Type} (f : γ → δ → ε) (g : α → β → γ) (h : α → β → δ)
    (x : List α) (y : List β) :
    List.zipWith f (List.zipWith g x y) (List.zipWith h x y)
      = List.zipWith (fun a b => f (g a b) (h a b)) x y := by
  induction x generalizing y with
  | nil => rfl
  | cons a x ih => cases y with
    | nil => rfl
    | cons b y => exact congrArg (List.cons _) (ih y)

end SrcLemmas

namespace SrcLemmasD
open SrcLemmas

variable {α β γ δ σ : Type}

theorem zipWith_map_zip_map_zip (f : γ → δ → σ) (g : α → β → γ) (h : α → β → δ)
    (x : List α) (y : List β) :
    List.zipWith f ((x.zip y).map (fun p => g p.1 p.2)) ((x.zip y).map (fun p => h p.1 p.2))
      = (x.zip y).map (fun p => f (g p.1 p.2) (h p.1 p.2)) := by
  rw [List.zipWith_map_left, List.zipWith_map_right, List.zipWith_self]

end SrcLemmasD
end Umap
