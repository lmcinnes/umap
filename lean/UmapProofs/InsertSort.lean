/-
  `Spectral.insertBy` folded over `0 .. m-1` is a stable sorting permutation, for a key into any
  linear order.  `Spectral.argsort` and `KnnStage.argsortExt` are both instances.
-/
import Mathlib.Order.Basic
import UmapModel.Spectral

namespace Umap
namespace Spectral
variable {L : Type} [LinearOrder L] (key : Nat → L)

abbrev StableLt (a b : Nat) : Prop := key a < key b ∨ (key a = key b ∧ a < b)

theorem insertBy_perm (i : Nat) (l : List Nat) : (insertBy key i l).Perm (i :: l) := by
  induction l with
  | nil => exact .refl _
  | cons j t ih =>
    unfold insertBy
    split_ifs
    · exact .refl _
    · exact (ih.cons j).trans (.swap i j t)

theorem insertBy_stable (i : Nat) (l : List Nat) (hb : ∀ a ∈ l, a < i)
    (h : l.Pairwise (StableLt key)) : (insertBy key i l).Pairwise (StableLt key) := by
  induction l with
  | nil => exact List.pairwise_singleton _ _
  | cons j t ih =>
    rw [List.pairwise_cons] at h
    unfold insertBy
    split_ifs with hlt
    · refine List.pairwise_cons.2 ⟨?_, List.pairwise_cons.2 h⟩
      intro b hb'
      rcases List.mem_cons.1 hb' with rfl | hb'
      · exact Or.inl hlt
      · exact Or.inl ((h.1 b hb').elim hlt.trans fun h1 => h1.1 ▸ hlt)
    · refine List.pairwise_cons.2 ⟨?_, ih (fun a ha => hb a (List.mem_cons_of_mem _ ha)) h.2⟩
      intro b hb'
      rcases List.mem_cons.1 ((insertBy_perm key i t).mem_iff.1 hb') with rfl | hb'
      · exact (not_lt.1 hlt).lt_or_eq.imp id fun h1 => ⟨h1, hb j List.mem_cons_self⟩
      · exact h.1 b hb'

abbrev sortIdx (m : Nat) : List Nat := (List.range m).foldl (fun acc i => insertBy key i acc) []

theorem sortIdx_succ (m : Nat) : sortIdx key (m + 1) = insertBy key m (sortIdx key m) := by
  simp only [sortIdx, List.range_succ, List.foldl_append, List.foldl_cons, List.foldl_nil]

theorem sortIdx_perm (m : Nat) : (sortIdx key m).Perm (List.range m) := by
  induction m with
  | zero => exact .refl _
  | succ m ih =>
    rw [sortIdx_succ, List.range_succ]
    exact (insertBy_perm key m _).trans ((ih.cons m).trans (List.perm_append_singleton m _).symm)

theorem mem_sortIdx {m c : Nat} : c ∈ sortIdx key m ↔ c < m := by
  rw [(sortIdx_perm key m).mem_iff, List.mem_range]

theorem sortIdx_length (m : Nat) : (sortIdx key m).length = m :=
  (sortIdx_perm key m).length_eq.trans List.length_range

theorem sortIdx_nodup (m : Nat) : (sortIdx key m).Nodup :=
  (sortIdx_perm key m).nodup_iff.2 List.nodup_range

theorem sortIdx_stable (m : Nat) : (sortIdx key m).Pairwise (StableLt key) := by
  induction m with
  | zero => exact List.Pairwise.nil
  | succ m ih =>
    rw [sortIdx_succ]
    exact insertBy_stable key m _ (fun a ha => (mem_sortIdx key).1 ha) ih

theorem sortIdx_sorted (m : Nat) : (sortIdx key m).Pairwise (fun a b => key a ≤ key b) :=
  (sortIdx_stable key m).imp fun h => h.elim le_of_lt fun h => h.1.le

/-- a non-empty sorted order starts with an index that carries a smallest key. -/
theorem sortIdx_eq_cons {m : Nat} (hm : 0 < m) :
    ∃ d t, sortIdx key m = d :: t ∧ d < m ∧ ∀ c, c < m → key d ≤ key c := by
  obtain ⟨d, t, h⟩ := List.exists_cons_of_length_pos ((sortIdx_length key m).symm ▸ hm)
  have hmem : ∀ c, c < m ↔ c = d ∨ c ∈ t := fun c => by
    rw [← mem_sortIdx key, h, List.mem_cons]
  have hs := sortIdx_sorted key m
  rw [h, List.pairwise_cons] at hs
  exact ⟨d, t, h, (hmem d).2 (.inl rfl), fun c hc =>
    ((hmem c).1 hc).elim (fun e => e ▸ le_rfl) (hs.1 c)⟩

/-- the stable sort is unique: a list of the indices `0 .. m-1` in strictly increasing
    (key, index) order is `sortIdx key m`. -/
theorem sortIdx_eq_of_stable {m : Nat} {l : List Nat} (hp : l.Perm (List.range m))
    (hs : l.Pairwise (StableLt key)) : sortIdx key m = l := by
  refine List.Perm.eq_of_pairwise ?_ (sortIdx_stable key m) hs ((sortIdx_perm key m).trans hp.symm)
  rintro a b _ _ (h | h) (h' | h')
  · exact absurd h' (lt_asymm h)
  · exact absurd (h'.1 ▸ h) (lt_irrefl _)
  · exact absurd (h.1 ▸ h') (lt_irrefl _)
  · exact absurd h'.2 (Nat.lt_asymm h.2)

end Spectral
end Umap
