/-
  C12 (real-valued family) — axioms and bounds of the real-valued dense metrics.

  Model: `Umap.Metrics` instantiated at ℝ with `Umap.realT`.  For every metric: symmetry,
  non-negativity, the value on identical arguments, the code's conventions for all-zero vectors,
  and — for the bounded metrics — the supremum that the live table of default disconnection
  distances (`Generated.disconnectionDistances`) relies on.

  Every coordinate-wise metric is `F (∑ g (xᵢ, yᵢ))`: symmetry, the value on the diagonal,
  non-negativity and definiteness come from the same four facts about `g` (`sumL_zip_comm`,
  `sumL_zip_self`, `sumL_map_nonneg`, `eq_of_sumL_zip_eq_zero`; for `g (a, b) = f (a - b)` their
  `diffs` forms in `UmapProofs.MetricsLemmas`).  A metric with branches for degenerate arguments
  first gets its equation over ℝ (`cosine_eq`, `hellinger_eq`, …), and the theorems rewrite with it;
  `correlation` is `cosine` of the centred vectors (`correlation_eq_cosine`) and inherits its theorems.
  (`manhattan` and the symmetry of `chebyshev` need no ℝ: they are in `UmapProps.C12`, over any
  ordered field.)
-/
import UmapProofs.RealT
import UmapModel.Metrics
import UmapProps.C12
import Mathlib.Tactic.NormNum.RealSqrt
import Generated.Constants

namespace Umap
namespace C12
open Metrics

theorem diffs_self_eq (x : List ℝ) : diffs x x = x.map (fun _ => 0) :=
  (List.map_id _).symm.trans (map_diffs_self id x)

/-- squared euclidean distance: the radicand of `euclidean`, the numerator of the Poincaré
    ratio. -/
noncomputable def sqDist (u v : List ℝ) : ℝ := sumL ((diffs u v).map (fun d => d * d))

theorem euclidean_eq (x y : List ℝ) : euclidean realT x y = Real.sqrt (sqDist x y) := rfl

theorem sqDist_symm (u v : List ℝ) : sqDist v u = sqDist u v :=
  congrArg sumL (diffs_swap_map _ (fun d => neg_mul_neg d d) u v)

theorem sqDist_nonneg (u v : List ℝ) : 0 ≤ sqDist u v :=
  sumL_map_nonneg _ _ fun d _ => mul_self_nonneg d

theorem sqDist_self (u : List ℝ) : sqDist u u = 0 :=
  sumL_map_diffs_self (fun d => d * d) (mul_zero 0) u

theorem sqDist_eq_zero (u v : List ℝ) (h : u.length = v.length) (h0 : sqDist u v = 0) :
    u = v :=
  eq_of_sumL_map_diffs_eq_zero _ mul_self_nonneg (fun _ => mul_self_eq_zero.mp) u v h h0

theorem euclidean_symm (x y : List ℝ) : euclidean realT y x = euclidean realT x y := by
  rw [euclidean_eq, euclidean_eq, sqDist_symm]

theorem euclidean_nonneg (x y : List ℝ) : 0 ≤ euclidean realT x y := by
  rw [euclidean_eq]; exact Real.sqrt_nonneg _

theorem euclidean_self (x : List ℝ) : euclidean realT x x = 0 := by
  rw [euclidean_eq, sqDist_self, Real.sqrt_zero]

theorem euclidean_eq_zero_iff (x y : List ℝ) (h : x.length = y.length) :
    euclidean realT x y = 0 ↔ x = y :=
  ⟨fun h0 => sqDist_eq_zero x y h ((Real.sqrt_eq_zero (sqDist_nonneg x y)).mp h0),
    fun e => e ▸ euclidean_self x⟩

example : euclidean realT [3, 0] [0, 4] = 5 := by
  simp only [euclidean, diffs, List.zip_cons_cons, List.zip_nil_right, List.map_cons, List.map_nil,
    sumL_cons, sumL_nil, realT]
  rw [show (3 - 0) * (3 - 0) + ((0 - 4) * (0 - 4) + 0) = (5 : ℝ) ^ 2 by norm_num]
  exact Real.sqrt_sq (by norm_num)

theorem chebyshev_nonneg (x y : List ℝ) : 0 ≤ chebyshev x y := by
  unfold chebyshev
  exact maxL_ge_init 0 _

theorem chebyshev_self (x : List ℝ) : chebyshev x x = 0 := by
  unfold chebyshev
  rcases maxL_mem 0 ((diffs x x).map absV) with h | h
  · exact h
  · obtain ⟨d, hd, e⟩ := List.mem_map.mp h
    rw [← e, diffs_self x d hd, absV_zero]

theorem chebyshev_ge (x y : List ℝ) : ∀ p ∈ x.zip y, |p.1 - p.2| ≤ chebyshev x y := by
  intro p hp
  unfold chebyshev
  rw [map_diffs, ← absV_eq_abs]
  exact le_maxL 0 _ _ (List.mem_map.mpr ⟨p, hp, rfl⟩)

/-- with `chebyshev_ge`: the loop `result = max(result, |x[i] - y[i]|)` from `0.0` returns the largest
    coordinate difference. -/
theorem chebyshev_attained (x y : List ℝ) :
    chebyshev x y = 0 ∨ ∃ p ∈ x.zip y, chebyshev x y = |p.1 - p.2| := by
  unfold chebyshev
  rw [map_diffs]
  rcases maxL_mem 0 ((x.zip y).map fun p => absV (p.1 - p.2)) with h | h
  · exact Or.inl h
  · obtain ⟨p, hp, e⟩ := List.mem_map.mp h
    exact Or.inr ⟨p, hp, by rw [← e, absV_eq_abs]⟩

theorem chebyshev_eq_zero (x y : List ℝ) (h : x.length = y.length) (h0 : chebyshev x y = 0) :
    x = y := by
  apply eq_of_zip_forall_eq x y h
  intro p hp
  have := chebyshev_ge x y p hp
  rw [h0] at this
  exact sub_eq_zero.mp (abs_eq_zero.mp (le_antisymm this (abs_nonneg _)))

example : chebyshev ([1, 5, 2] : List ℝ) [2, 1, 2] = 4 := by
  simp only [chebyshev, diffs, List.zip_cons_cons, List.zip_nil_right, List.map_cons, List.map_nil,
    maxL_cons, absV_eq_abs]
  norm_num [maxL, abs_of_neg]

theorem minkowski_symm (p : ℝ) (x y : List ℝ) : minkowski realT p y x = minkowski realT p x y := by
  unfold minkowski
  rw [diffs_swap_map _ (fun d => by rw [absV_neg]) x y]

theorem rpow_absV_nonneg (d p : ℝ) : 0 ≤ realT.pow (absV d) p :=
  Real.rpow_nonneg (absV_nonneg d) p

theorem minkowski_nonneg (p : ℝ) (x y : List ℝ) : 0 ≤ minkowski realT p x y := by
  unfold minkowski
  exact Real.rpow_nonneg (sumL_map_nonneg _ _ fun d _ => rpow_absV_nonneg d p) _

theorem minkowski_self (p : ℝ) (hp : 0 < p) (x : List ℝ) : minkowski realT p x x = 0 := by
  unfold minkowski
  rw [sumL_map_diffs_self _ (by rw [absV_zero]; exact Real.zero_rpow hp.ne')]
  exact Real.zero_rpow (one_div_pos.mpr hp).ne'

/-- identity of indiscernibles for minkowski (equal lengths; every exponent — for `p = 0` the
    value is never 0, the exponents of interest are `p > 0`). -/
theorem minkowski_eq_zero (p : ℝ) (x y : List ℝ) (h : x.length = y.length)
    (h0 : minkowski realT p x y = 0) : x = y := by
  unfold minkowski at h0
  refine eq_of_sumL_map_diffs_eq_zero _ (fun d => rpow_absV_nonneg d p) (fun d e => ?_) x y h
    ((Real.rpow_eq_zero_iff_of_nonneg
      (sumL_map_nonneg _ _ fun d _ => rpow_absV_nonneg d p)).mp h0).1
  have := ((Real.rpow_eq_zero_iff_of_nonneg (absV_nonneg d)).mp e).1
  rwa [absV_eq_abs, abs_eq_zero] at this

theorem minkowski_one (x y : List ℝ) : minkowski realT 1 x y = manhattan x y := by
  unfold minkowski manhattan
  simp only [realT, Real.rpow_one, div_one]

theorem minkowski_two (x y : List ℝ) : minkowski realT 2 x y = euclidean realT x y := by
  unfold minkowski euclidean
  simp only [realT]
  rw [Real.sqrt_eq_rpow]
  congr 2
  apply List.map_congr_left
  intro d _
  rw [absV_eq_abs, Real.rpow_two, sq_abs, sq]

example : (0 : ℝ) < 3 ∧ ([1, 2] : List ℝ).length = ([4, 6] : List ℝ).length := by
  constructor <;> norm_num

/-- `diffs_swap_map` and `diffs_self` for the metrics that zip the differences with a third list
    (variances, weights). -/
theorem zip_diffs_swap_map {β γ : Type} (x y : List ℝ) (s : List β) (f : ℝ × β → γ)
    (hf : ∀ d b, f (-d, b) = f (d, b)) :
    ((diffs y x).zip s).map f = ((diffs x y).zip s).map f := by
  rw [diffs_swap, List.zip_map_left, List.map_map]
  exact List.map_congr_left fun q _ => hf q.1 q.2

theorem mem_zip_diffs_self {β : Type} (x : List ℝ) (s : List β) :
    ∀ q ∈ (diffs x x).zip s, q.1 = 0 :=
  fun q hq => diffs_self x q.1 (List.of_mem_zip hq).1

theorem seuclidean_symm (sigma x y : List ℝ) :
    seuclidean realT sigma y x = seuclidean realT sigma x y := by
  unfold seuclidean
  rw [zip_diffs_swap_map x y sigma _ (fun d b => by ring)]

theorem seuclidean_nonneg (sigma x y : List ℝ) : 0 ≤ seuclidean realT sigma x y := by
  unfold seuclidean
  exact Real.sqrt_nonneg _

theorem seuclidean_self (sigma x : List ℝ) : seuclidean realT sigma x x = 0 := by
  unfold seuclidean
  rw [sumL_map_eq_zero _ _ fun q hq => by rw [mem_zip_diffs_self x sigma q hq, mul_zero, zero_div]]
  exact Real.sqrt_zero

/-- with positive variances the radicand of seuclidean is non-negative (no `sqrt` of a negative
    number). -/
theorem seuclidean_radicand_nonneg (sigma x y : List ℝ) (hs : ∀ s ∈ sigma, 0 < s) :
    0 ≤ sumL (((diffs x y).zip sigma).map (fun p => (p.1 * p.1) / p.2)) :=
  sumL_map_nonneg _ _ fun _ hq =>
    div_nonneg (mul_self_nonneg _) (hs _ (List.of_mem_zip hq).2).le

example : ∀ s ∈ ([1, 4] : List ℝ), 0 < s :=
  forall_mem_pair (by norm_num) (by norm_num)

theorem wminkowski_symm (w : List ℝ) (p : ℝ) (x y : List ℝ) :
    wminkowski realT w p y x = wminkowski realT w p x y := by
  unfold wminkowski
  rw [zip_diffs_swap_map x y w _ (fun d b => by rw [absV_neg])]

theorem wminkowski_nonneg (w : List ℝ) (hw : ∀ v ∈ w, 0 ≤ v) (p : ℝ) (x y : List ℝ) :
    0 ≤ wminkowski realT w p x y := by
  unfold wminkowski
  exact Real.rpow_nonneg (sumL_map_nonneg _ _ fun q hq =>
    mul_nonneg (hw _ (List.of_mem_zip hq).2) (rpow_absV_nonneg q.1 p)) _

theorem wminkowski_self (w : List ℝ) (p : ℝ) (hp : 0 < p) (x : List ℝ) :
    wminkowski realT w p x x = 0 := by
  unfold wminkowski
  rw [sumL_map_eq_zero _ _ fun q hq => by
    rw [mem_zip_diffs_self x w q hq, absV_zero]
    exact (congrArg (q.2 * ·) (Real.zero_rpow hp.ne')).trans (mul_zero _)]
  exact Real.zero_rpow (one_div_pos.mpr hp).ne'

example : (∀ v ∈ ([0, 2] : List ℝ), 0 ≤ v) ∧ (0 : ℝ) < 3 :=
  ⟨forall_mem_pair (by norm_num) (by norm_num), by norm_num⟩

/-- the quadratic form `dᵀ · vinv · d` as the code accumulates it: row by row, `(row · d) dᵢ`. -/
noncomputable def mahaQ (vinv : List (List ℝ)) (d : List ℝ) : ℝ :=
  sumL ((vinv.zip d).map (fun rd => dot rd.1 d * rd.2))

theorem mahalanobis_eq (vinv : List (List ℝ)) (x y : List ℝ) :
    mahalanobis realT vinv x y = Real.sqrt (mahaQ vinv (diffs x y)) := rfl

theorem mahaQ_neg (vinv : List (List ℝ)) (d : List ℝ) :
    mahaQ vinv (d.map (fun v => -v)) = mahaQ vinv d := by
  unfold mahaQ
  rw [List.zip_map_right, List.map_map]
  exact congrArg sumL (List.map_congr_left fun rd _ => by
    simp only [Function.comp_apply, Prod.map_fst, Prod.map_snd, id, dot_map_neg_right, neg_mul_neg])

/-- mahalanobis is symmetric — for every matrix `vinv`, symmetric or not (the quadratic form is
    even in the difference vector). -/
theorem mahalanobis_symm (vinv : List (List ℝ)) (x y : List ℝ) :
    mahalanobis realT vinv y x = mahalanobis realT vinv x y := by
  rw [mahalanobis_eq, mahalanobis_eq, diffs_swap, mahaQ_neg]

theorem mahalanobis_nonneg (vinv : List (List ℝ)) (x y : List ℝ) :
    0 ≤ mahalanobis realT vinv x y := by
  rw [mahalanobis_eq]; exact Real.sqrt_nonneg _

theorem mahalanobis_self (vinv : List (List ℝ)) (x : List ℝ) :
    mahalanobis realT vinv x x = 0 := by
  rw [mahalanobis_eq]
  unfold mahaQ
  rw [sumL_map_eq_zero _ _ fun rd hrd => by
    rw [diffs_self x rd.2 (List.of_mem_zip hrd).2, mul_zero]]
  exact Real.sqrt_zero

noncomputable def canberraTerm (p : ℝ × ℝ) : ℝ :=
  let den := absV p.1 + absV p.2
  if 0 < den then absV (p.1 - p.2) / den else 0

theorem canberra_eq (x y : List ℝ) : canberra x y = sumL ((x.zip y).map canberraTerm) := rfl

theorem canberraTerm_eq (a b : ℝ) :
    canberraTerm (a, b) = if 0 < |a| + |b| then |a - b| / (|a| + |b|) else 0 := by
  simp only [canberraTerm, absV_eq_abs]

theorem canberraTerm_swap (a b : ℝ) : canberraTerm (b, a) = canberraTerm (a, b) := by
  rw [canberraTerm_eq, canberraTerm_eq, abs_sub_comm, add_comm]

theorem canberraTerm_range (a b : ℝ) : 0 ≤ canberraTerm (a, b) ∧ canberraTerm (a, b) ≤ 1 := by
  rw [canberraTerm_eq]
  split_ifs with h
  · exact ⟨div_nonneg (abs_nonneg _) h.le, (div_le_one h).mpr (abs_sub a b)⟩
  · exact ⟨le_refl _, zero_le_one⟩

theorem canberraTerm_self (a : ℝ) : canberraTerm (a, a) = 0 := by
  rw [canberraTerm_eq, sub_self, abs_zero, zero_div, ite_self]

theorem canberra_symm (x y : List ℝ) : canberra y x = canberra x y :=
  sumL_zip_comm _ canberraTerm_swap x y

theorem canberra_range (x y : List ℝ) : 0 ≤ canberra x y ∧ canberra x y ≤ (x.length : ℝ) :=
  ⟨sumL_map_nonneg _ _ fun p _ => (canberraTerm_range p.1 p.2).1,
    (sumL_map_le_length _ _ fun p _ => (canberraTerm_range p.1 p.2).2).trans
      (Nat.cast_le.mpr (List.length_zip ▸ Nat.min_le_left _ _))⟩

theorem canberra_self (x : List ℝ) : canberra x x = 0 :=
  sumL_zip_self _ canberraTerm_self x

/-- the code's convention for coordinates where both entries are 0: they contribute nothing. -/
theorem canberra_zero_zero (n : ℕ) :
    canberra (List.replicate n (0 : ℝ)) (List.replicate n 0) = 0 := canberra_self _

/-- the bound is attained: vectors of opposite sign are at distance `length`. -/
example : canberra ([1, -2] : List ℝ) [-3, 5] = 2 := by
  simp only [canberra_eq, List.zip_cons_cons, List.zip_nil_right, List.map_cons, List.map_nil,
    sumL_cons, sumL_nil, canberraTerm_eq]
  norm_num [abs_of_neg, abs_of_pos]

/-- `numerator` and `denominator` of `bray_curtis`. -/
noncomputable def bcNum (x y : List ℝ) : ℝ := sumL ((x.zip y).map (fun p => absV (p.1 - p.2)))
noncomputable def bcDen (x y : List ℝ) : ℝ := sumL ((x.zip y).map (fun p => absV (p.1 + p.2)))

theorem brayCurtis_eq (x y : List ℝ) :
    brayCurtis x y = if 0 < bcDen x y then bcNum x y / bcDen x y else 0 := rfl

theorem bcNum_symm (x y : List ℝ) : bcNum y x = bcNum x y :=
  sumL_zip_comm _ (fun a b => by rw [← absV_neg, neg_sub]) x y

theorem bcDen_symm (x y : List ℝ) : bcDen y x = bcDen x y :=
  sumL_zip_comm _ (fun a b => by rw [add_comm]) x y

theorem bcNum_nonneg (x y : List ℝ) : 0 ≤ bcNum x y :=
  sumL_map_nonneg _ _ fun _ _ => absV_nonneg _

theorem bcNum_self (x : List ℝ) : bcNum x x = 0 :=
  sumL_zip_self _ (fun a => by rw [sub_self, absV_zero]) x

theorem brayCurtis_symm (x y : List ℝ) : brayCurtis y x = brayCurtis x y := by
  rw [brayCurtis_eq, brayCurtis_eq, bcNum_symm, bcDen_symm]

theorem brayCurtis_nonneg (x y : List ℝ) : 0 ≤ brayCurtis x y := by
  rw [brayCurtis_eq]
  split_ifs with h
  · exact div_nonneg (bcNum_nonneg x y) h.le
  · exact le_refl _

theorem brayCurtis_self (x : List ℝ) : brayCurtis x x = 0 := by
  rw [brayCurtis_eq, bcNum_self, zero_div, ite_self]

/-- the code's convention for two all-zero vectors (denominator 0): the distance is 0. -/
theorem brayCurtis_zero_zero (n : ℕ) :
    brayCurtis (List.replicate n (0 : ℝ)) (List.replicate n 0) = 0 := brayCurtis_self _

theorem brayCurtis_le_one (x y : List ℝ) (hx : ∀ v ∈ x, 0 ≤ v) (hy : ∀ v ∈ y, 0 ≤ v) :
    brayCurtis x y ≤ 1 := by
  rw [brayCurtis_eq]
  split_ifs with h
  · refine (div_le_one h).mpr (sumL_map_le _ _ _ fun p hp => ?_)
    have h1 := hx _ (List.of_mem_zip hp).1
    have h2 := hy _ (List.of_mem_zip hp).2
    rw [absV_eq_abs, absV_eq_abs, abs_of_nonneg (add_nonneg h1 h2)]
    exact abs_sub_le_of_nonneg_of_le h1 (le_add_of_nonneg_right h2) h2 (le_add_of_nonneg_left h1)
  · exact zero_le_one

theorem brayCurtis_range (x y : List ℝ) (hx : ∀ v ∈ x, 0 ≤ v) (hy : ∀ v ∈ y, 0 ≤ v) :
    0 ≤ brayCurtis x y ∧ brayCurtis x y ≤ 1 :=
  ⟨brayCurtis_nonneg x y, brayCurtis_le_one x y hx hy⟩

/-- non-vacuity, and the bound 1 is attained on disjoint supports. -/
example : (∀ v ∈ ([1, 0] : List ℝ), 0 ≤ v) ∧ (∀ v ∈ ([0, 3] : List ℝ), 0 ≤ v)
    ∧ brayCurtis ([1, 0] : List ℝ) [0, 3] = 1 := by
  refine ⟨?_, ?_, ?_⟩
  · exact forall_mem_pair (by norm_num) (by norm_num)
  · exact forall_mem_pair (by norm_num) (by norm_num)
  · simp only [brayCurtis_eq, bcNum, bcDen, List.zip_cons_cons, List.zip_nil_right, List.map_cons,
      List.map_nil, sumL_cons, sumL_nil, absV_eq_abs]
    norm_num [abs_of_neg, abs_of_pos]

/-- without the sign condition the bound fails: `brayCurtis [1] [-2] = 3`. -/
example : brayCurtis ([1] : List ℝ) [-2] = 3 := by
  simp only [brayCurtis_eq, bcNum, bcDen, List.zip_cons_cons, List.zip_nil_right, List.map_cons,
    List.map_nil, sumL_cons, sumL_nil, absV_eq_abs]
  norm_num [abs_of_neg, abs_of_pos]

/-- Cauchy–Schwarz over a zip, in the form that serves both the inner product (`r = ab`, `f = a²`,
    `g = b²`) and the Bhattacharyya sum (`r = √(ab)`, `f = g = id`). -/
theorem sumL_sq_le_of_sq_le_mul (x y : List ℝ) (h : x.length = y.length) (r : ℝ × ℝ → ℝ)
    (f g : ℝ → ℝ) (hf : ∀ a ∈ x, 0 ≤ f a) (hg : ∀ b ∈ y, 0 ≤ g b)
    (hr : ∀ p ∈ x.zip y, r p ^ 2 ≤ f p.1 * g p.2) :
    sumL ((x.zip y).map r) ^ 2 ≤ sumL (x.map f) * sumL (y.map g) := by
  rw [← map_zip_fst x y h f, ← map_zip_snd x y h g]
  simp only [sumL_eq_sum, ← Fin.sum_univ_fun_getElem]
  exact Finset.sum_sq_le_sum_mul_sum_of_sq_le_mul _
    (fun i _ => hf _ (List.of_mem_zip (List.getElem_mem _)).1)
    (fun i _ => hg _ (List.of_mem_zip (List.getElem_mem _)).2) fun i _ => hr _ (List.getElem_mem _)

theorem dot_sq_le (x y : List ℝ) (h : x.length = y.length) :
    (dot x y) ^ 2 ≤ dot x x * dot y y := by
  rw [dot_self_eq x, dot_self_eq y]
  exact sumL_sq_le_of_sq_le_mul x y h _ _ _ (fun a _ => mul_self_nonneg a)
    (fun b _ => mul_self_nonneg b) fun p _ => (mul_mul_mul_comm p.1 p.1 p.2 p.2 ▸ sq (p.1 * p.2)).le

/-- the branches of `cosine`, with the float equality tests read as equalities. -/
theorem cosine_eq (x y : List ℝ) :
    cosine realT x y =
      if dot x x = 0 ∧ dot y y = 0 then 0
      else if dot x x = 0 ∨ dot y y = 0 then 1
      else 1 - dot x y / Real.sqrt (dot x x * dot y y) := by
  simp only [cosine, Bool.and_eq_true, Bool.or_eq_true, eqV_iff, realT]

/-- the conventions for degenerate arguments shared by cosine, hellinger and ll_dirichlet do not
    see the order of the two tests. -/
theorem ite_and_or_comm {a b : Prop} [Decidable a] [Decidable b] (c v : ℝ) :
    (if b ∧ a then 0 else if b ∨ a then c else v)
      = if a ∧ b then 0 else if a ∨ b then c else v := by
  simp only [and_comm (a := b), or_comm (a := b)]

theorem cosine_symm (x y : List ℝ) : cosine realT y x = cosine realT x y := by
  rw [cosine_eq, cosine_eq, dot_symm x y, mul_comm (dot y y), ite_and_or_comm]

/-- convention: two all-zero vectors are at cosine distance 0. -/
theorem cosine_zero_zero (x y : List ℝ) (hx : ∀ v ∈ x, v = 0) (hy : ∀ v ∈ y, v = 0) :
    cosine realT x y = 0 := by
  rw [cosine_eq, if_pos ⟨(dot_self_eq_zero_iff x).mpr hx, (dot_self_eq_zero_iff y).mpr hy⟩]

/-- convention: an all-zero vector is at cosine distance 1 from every non-zero vector. -/
theorem cosine_zero_left (x y : List ℝ) (hx : ∀ v ∈ x, v = 0) (hy : ∃ v ∈ y, v ≠ 0) :
    cosine realT x y = 1 := by
  obtain ⟨v, hv, hne⟩ := hy
  rw [cosine_eq, if_neg fun h => hne ((dot_self_eq_zero_iff y).mp h.2 v hv),
    if_pos (Or.inl ((dot_self_eq_zero_iff x).mpr hx))]

theorem cosine_zero_right (x y : List ℝ) (hx : ∃ v ∈ x, v ≠ 0) (hy : ∀ v ∈ y, v = 0) :
    cosine realT x y = 1 := by
  rw [← cosine_symm]; exact cosine_zero_left y x hy hx

theorem one_sub_div_sqrt_self {a : ℝ} (h0 : 0 ≤ a) (h : a ≠ 0) : 1 - a / Real.sqrt (a * a) = 0 := by
  rw [Real.sqrt_mul_self h0, div_self h, sub_self]

/-- zero on identical arguments, zero vector or not. -/
theorem cosine_self (x : List ℝ) : cosine realT x x = 0 := by
  rw [cosine_eq]
  by_cases h : dot x x = 0
  · rw [if_pos ⟨h, h⟩]
  · rw [if_neg (fun hh => h hh.1), if_neg (fun hh => h (hh.elim id id)),
      one_sub_div_sqrt_self (dot_self_nonneg x) h]

/-- no positivity hypothesis: for `ab = 0` the quotient is `r / 0 = 0`. -/
theorem abs_div_sqrt_le_one {r ab : ℝ} (hr : r ^ 2 ≤ ab) : |r / Real.sqrt ab| ≤ 1 := by
  rw [abs_div, abs_of_nonneg (Real.sqrt_nonneg ab)]
  exact div_le_one_of_le₀ (Real.abs_le_sqrt hr) (Real.sqrt_nonneg ab)

theorem one_sub_div_sqrt_range {r ab : ℝ} (hr : r ^ 2 ≤ ab) :
    0 ≤ 1 - r / Real.sqrt ab ∧ 1 - r / Real.sqrt ab ≤ 2 := by
  obtain ⟨h1, h2⟩ := abs_le.mp (abs_div_sqrt_le_one hr)
  exact ⟨sub_nonneg.mpr h2, by linear_combination h1⟩

/-- the cosine distance lies in `[0, 2]` (Cauchy–Schwarz): `2` is its supremum, the default
    disconnection distance. -/
theorem cosine_range (x y : List ℝ) (h : x.length = y.length) :
    0 ≤ cosine realT x y ∧ cosine realT x y ≤ 2 := by
  rw [cosine_eq]
  split_ifs
  · exact ⟨le_refl _, by norm_num⟩
  · exact ⟨zero_le_one, by norm_num⟩
  · exact one_sub_div_sqrt_range (dot_sq_le x y h)

/-- non-vacuity and attainment of the supremum: opposite vectors are at distance 2. -/
example : ([1, 2] : List ℝ).length = ([-1, -2] : List ℝ).length
    ∧ cosine realT ([1, 2] : List ℝ) [-1, -2] = 2 := by
  refine ⟨rfl, ?_⟩
  rw [cosine_eq]
  simp only [dot, List.zip_cons_cons, List.zip_nil_right, List.map_cons, List.map_nil,
    sumL_cons, sumL_nil]
  norm_num

/-- the vector centred the way `correlation` does it: the mean is taken over `n` entries. -/
noncomputable def cen (n : ℕ) (x : List ℝ) : List ℝ := x.map (· - sumL x / (n : ℝ))

theorem cen_length (n : ℕ) (x : List ℝ) : (cen n x).length = x.length := by
  unfold cen; exact List.length_map _

theorem correlation_eq (x y : List ℝ) :
    correlation realT x y =
      if dot (cen x.length x) (cen x.length x) = 0 ∧ dot (cen x.length y) (cen x.length y) = 0
      then 0
      else if dot (cen x.length x) (cen x.length y) = 0 then 1
      else 1 - dot (cen x.length x) (cen x.length y)
        / Real.sqrt (dot (cen x.length x) (cen x.length x) * dot (cen x.length y) (cen x.length y)) := by
  simp only [correlation, mean, Bool.and_eq_true, eqV_iff, realT]
  rfl

/-- `correlation` is `cosine` of the centred vectors.  The two differ in the second test only
    (`dp = 0` against `nx = 0 ∨ ny = 0`): `dp = 0` makes the last branch `1`, and a zero norm makes
    `dp` zero. -/
theorem correlation_eq_cosine (x y : List ℝ) :
    correlation realT x y = cosine realT (cen x.length x) (cen x.length y) := by
  rw [correlation_eq, cosine_eq]
  by_cases h : dot (cen x.length x) (cen x.length y) = 0
  · rw [if_pos h, h, zero_div, sub_zero, ite_self]
  · rw [if_neg h, if_neg fun h' : _ ∨ _ =>
      h (h'.elim (dot_eq_zero_of_left _ _) (dot_eq_zero_of_right _ _))]

theorem correlation_symm (x y : List ℝ) (h : x.length = y.length) :
    correlation realT y x = correlation realT x y := by
  rw [correlation_eq_cosine, correlation_eq_cosine, ← h, cosine_symm]

/-- zero on identical arguments, constant vector or not. -/
theorem correlation_self (x : List ℝ) : correlation realT x x = 0 := by
  rw [correlation_eq_cosine]; exact cosine_self _

/-- the correlation distance lies in `[0, 2]` (Cauchy–Schwarz on the centred vectors): `2` is its
    supremum, the default disconnection distance. -/
theorem correlation_range (x y : List ℝ) (h : x.length = y.length) :
    0 ≤ correlation realT x y ∧ correlation realT x y ≤ 2 := by
  rw [correlation_eq_cosine]
  exact cosine_range _ _ (by rw [cen_length, cen_length, h])

theorem cen_const (x : List ℝ) (a : ℝ) (hx : ∀ v ∈ x, v = a) :
    ∀ v ∈ cen x.length x, v = 0 := by
  intro v hv
  unfold cen at hv
  obtain ⟨w, hw, rfl⟩ := List.mem_map.mp hv
  have hlen : (x.length : ℝ) ≠ 0 :=
    Nat.cast_ne_zero.mpr (List.length_pos_iff.mpr (List.ne_nil_of_mem hw)).ne'
  have hs : sumL x = x.length * a := by
    rw [sumL_eq_sum, List.sum_eq_card_nsmul x a hx, nsmul_eq_mul]
  show w - sumL x / (x.length : ℝ) = 0
  rw [hs, hx w hw, mul_div_cancel_left₀ a hlen, sub_self]

/-- convention: two constant vectors are at correlation distance 0. -/
theorem correlation_const_const (x y : List ℝ) (h : x.length = y.length) (a b : ℝ)
    (hx : ∀ v ∈ x, v = a) (hy : ∀ v ∈ y, v = b) : correlation realT x y = 0 := by
  rw [correlation_eq_cosine, h]
  exact cosine_zero_zero _ _ (h ▸ cen_const x a hx) (cen_const y b hy)

/-- convention: a constant vector is at correlation distance 1 from every non-constant vector. -/
theorem correlation_const_left (x y : List ℝ) (a : ℝ)
    (hx : ∀ v ∈ x, v = a) (hy : ¬ ∃ c, ∀ v ∈ y, v = c) : correlation realT x y = 1 := by
  rw [correlation_eq_cosine]
  refine cosine_zero_left _ _ (cen_const x a hx) ?_
  -- were every centred entry `0`, every entry of `y` would be the mean
  by_contra h0
  exact hy ⟨sumL y / (x.length : ℝ), fun v hv => sub_eq_zero.mp <|
    not_not.mp fun hne => h0 ⟨_, List.mem_map.mpr ⟨v, hv, rfl⟩, hne⟩⟩

theorem correlation_const_right (x y : List ℝ) (h : x.length = y.length) (b : ℝ)
    (hx : ¬ ∃ c, ∀ v ∈ x, v = c) (hy : ∀ v ∈ y, v = b) : correlation realT x y = 1 := by
  rw [correlation_symm y x h.symm]; exact correlation_const_left y x b hy hx

/-- non-vacuity and attainment of the supremum: anti-correlated vectors are at distance 2. -/
example : ([1, 2] : List ℝ).length = ([2, 1] : List ℝ).length
    ∧ correlation realT ([1, 2] : List ℝ) [2, 1] = 2 := by
  refine ⟨rfl, ?_⟩
  rw [correlation_eq]
  simp only [cen, dot, List.length_cons, List.length_nil, List.zip_cons_cons, List.zip_nil_right,
    List.map_cons, List.map_nil, sumL_cons, sumL_nil]
  norm_num

/-- the Bhattacharyya sum `∑ √(x_i y_i)`. -/
noncomputable def hellR (x y : List ℝ) : ℝ :=
  sumL ((x.zip y).map (fun p => Real.sqrt (p.1 * p.2)))

/-- the branches of `hellinger` (the radicand clamp `max 0 ·` of the code is invisible over ℝ:
    `sqrt_maxV_zero`). -/
theorem hellinger_eq (x y : List ℝ) :
    hellinger realT x y =
      if sumL x = 0 ∧ sumL y = 0 then 0
      else if sumL x = 0 ∨ sumL y = 0 then 1
      else Real.sqrt (1 - hellR x y / Real.sqrt (sumL x * sumL y)) := by
  simp only [hellinger, Bool.and_eq_true, Bool.or_eq_true, eqV_iff, realT, sqrt_maxV_zero]
  rfl

theorem hellR_symm (x y : List ℝ) : hellR y x = hellR x y :=
  sumL_zip_comm _ (fun a b => by rw [mul_comm]) x y

theorem hellR_div_nonneg (x y : List ℝ) : 0 ≤ hellR x y / Real.sqrt (sumL x * sumL y) :=
  div_nonneg (sumL_map_nonneg _ _ fun _ _ => Real.sqrt_nonneg _) (Real.sqrt_nonneg _)

theorem hellinger_symm (x y : List ℝ) : hellinger realT y x = hellinger realT x y := by
  rw [hellinger_eq, hellinger_eq, hellR_symm x y, mul_comm (sumL y), ite_and_or_comm]

/-- convention: two all-zero vectors are at hellinger distance 0. -/
theorem hellinger_zero_zero (x y : List ℝ) (hx : ∀ v ∈ x, v = 0) (hy : ∀ v ∈ y, v = 0) :
    hellinger realT x y = 0 := by
  rw [hellinger_eq, if_pos ⟨sumL_eq_zero x hx, sumL_eq_zero y hy⟩]

/-- convention: an all-zero vector is at hellinger distance 1 from every vector of non-zero
    mass. -/
theorem hellinger_zero_left (x y : List ℝ) (hx : ∀ v ∈ x, v = 0) (hy : sumL y ≠ 0) :
    hellinger realT x y = 1 := by
  rw [hellinger_eq, if_neg (fun h => hy h.2), if_pos (Or.inl (sumL_eq_zero x hx))]

theorem hellinger_zero_right (x y : List ℝ) (hx : sumL x ≠ 0) (hy : ∀ v ∈ y, v = 0) :
    hellinger realT x y = 1 := by
  rw [← hellinger_symm]; exact hellinger_zero_left y x hy hx

/-- `0 ≤ hellinger ≤ 1` — for all real inputs (`Real.sqrt` of a negative radicand is 0);
    `hellinger_radicand_range` below shows that for non-negative inputs the radicand is
    itself in `[0, 1]`, so that the float code takes no root of a negative number.  `1` is the
    supremum, the default disconnection distance. -/
theorem hellinger_range (x y : List ℝ) :
    0 ≤ hellinger realT x y ∧ hellinger realT x y ≤ 1 := by
  rw [hellinger_eq]
  split_ifs with h1 h2
  · exact ⟨le_refl _, zero_le_one⟩
  · exact ⟨zero_le_one, le_refl _⟩
  · exact ⟨Real.sqrt_nonneg _, Real.sqrt_le_one.mpr (sub_le_self 1 (hellR_div_nonneg x y))⟩

theorem hellR_sq_le (x y : List ℝ) (h : x.length = y.length)
    (hx : ∀ v ∈ x, 0 ≤ v) (hy : ∀ v ∈ y, 0 ≤ v) :
    (hellR x y) ^ 2 ≤ sumL x * sumL y := by
  have := sumL_sq_le_of_sq_le_mul x y h (fun p => Real.sqrt (p.1 * p.2)) id id hx hy fun p hp =>
    (Real.sq_sqrt (mul_nonneg (hx _ (List.of_mem_zip hp).1) (hy _ (List.of_mem_zip hp).2))).le
  rwa [List.map_id, List.map_id] at this

/-- for non-negative inputs the quotient `∑ √(x_i y_i) / √(∑ x_i ∑ y_i)` is in `[0, 1]`: the
    radicand `1 - …` of hellinger is in `[0, 1]`. -/
theorem hellinger_radicand_range (x y : List ℝ) (h : x.length = y.length)
    (hx : ∀ v ∈ x, 0 ≤ v) (hy : ∀ v ∈ y, 0 ≤ v) :
    0 ≤ 1 - hellR x y / Real.sqrt (sumL x * sumL y)
      ∧ 1 - hellR x y / Real.sqrt (sumL x * sumL y) ≤ 1 :=
  ⟨(one_sub_div_sqrt_range (hellR_sq_le x y h hx hy)).1, sub_le_self 1 (hellR_div_nonneg x y)⟩

theorem hellR_self (x : List ℝ) (hx : ∀ v ∈ x, 0 ≤ v) : hellR x x = sumL x := by
  unfold hellR
  rw [map_zip_self, List.map_congr_left fun a ha => Real.sqrt_mul_self (hx a ha), List.map_id']

/-- zero on identical non-negative arguments, zero vector or not. -/
theorem hellinger_self (x : List ℝ) (hx : ∀ v ∈ x, 0 ≤ v) : hellinger realT x x = 0 := by
  rw [hellinger_eq]
  by_cases h : sumL x = 0
  · rw [if_pos ⟨h, h⟩]
  · rw [if_neg (fun hh => h hh.1), if_neg (fun hh => h (hh.elim id id)), hellR_self x hx,
      one_sub_div_sqrt_self (sumL_nonneg x hx) h, Real.sqrt_zero]

/-- non-vacuity, and the supremum 1 is attained on disjoint supports. -/
example : ([1, 0] : List ℝ).length = ([0, 3] : List ℝ).length
    ∧ (∀ v ∈ ([1, 0] : List ℝ), 0 ≤ v) ∧ (∀ v ∈ ([0, 3] : List ℝ), 0 ≤ v)
    ∧ hellinger realT ([1, 0] : List ℝ) [0, 3] = 1 := by
  refine ⟨rfl, ?_, ?_, ?_⟩
  · exact forall_mem_pair (by norm_num) (by norm_num)
  · exact forall_mem_pair (by norm_num) (by norm_num)
  · rw [hellinger_eq]
    simp only [hellR, List.zip_cons_cons, List.zip_nil_right, List.map_cons, List.map_nil,
      sumL_cons, sumL_nil]
    norm_num

/-- the argument of the square root in `haversine`. -/
noncomputable def havRad (x0 x1 y0 y1 : ℝ) : ℝ :=
  Real.sin (1 / 2 * (x0 - y0)) * Real.sin (1 / 2 * (x0 - y0))
    + Real.cos x0 * Real.cos y0
      * (Real.sin (1 / 2 * (x1 - y1)) * Real.sin (1 / 2 * (x1 - y1)))

theorem haversine_eq_havRad (x0 x1 y0 y1 : ℝ) :
    haversine realT [x0, x1] [y0, y1] = some (2 * Real.arcsin (Real.sqrt (havRad x0 x1 y0 y1))) := by
  simp only [haversine, two, realT, Nat.cast_ofNat, havRad]

theorem haversine_isSome_iff (x y : List ℝ) :
    (haversine realT x y).isSome ↔ x.length = 2 ∧ y.length = 2 := by
  unfold haversine
  split
  · exact iff_of_true rfl ⟨rfl, rfl⟩
  · next hne =>
    refine iff_of_false Bool.false_ne_true fun ⟨hx, hy⟩ => ?_
    obtain ⟨x0, x1, rfl⟩ := List.length_eq_two.mp hx
    obtain ⟨y0, y1, rfl⟩ := List.length_eq_two.mp hy
    exact hne x0 x1 y0 y1 rfl rfl

theorem haversine_eq_none (x y : List ℝ) (h : ¬ (x.length = 2 ∧ y.length = 2)) :
    haversine realT x y = none := by
  rwa [← haversine_isSome_iff, Option.not_isSome_iff_eq_none] at h

/-- a statement about `haversine x y` need only be checked on pairs of 2-d points and where both
    orders are undefined. -/
theorem haversine_cases (P : List ℝ → List ℝ → Prop)
    (h2 : ∀ x0 x1 y0 y1, P [x0, x1] [y0, y1])
    (hn : ∀ x y, haversine realT x y = none → haversine realT y x = none → P x y) (x y : List ℝ) :
    P x y := by
  by_cases h : x.length = 2 ∧ y.length = 2
  · obtain ⟨x0, x1, rfl⟩ := List.length_eq_two.mp h.1
    obtain ⟨y0, y1, rfl⟩ := List.length_eq_two.mp h.2
    exact h2 x0 x1 y0 y1
  · exact hn x y (haversine_eq_none x y h) (haversine_eq_none y x fun h' => h h'.symm)

theorem havRad_symm (x0 x1 y0 y1 : ℝ) : havRad y0 y1 x0 x1 = havRad x0 x1 y0 y1 := by
  unfold havRad
  rw [← neg_sub x0 y0, ← neg_sub x1 y1, mul_neg, mul_neg, Real.sin_neg, Real.sin_neg, neg_mul_neg,
    neg_mul_neg, mul_comm (Real.cos y0)]

theorem haversine_symm (x y : List ℝ) : haversine realT y x = haversine realT x y := by
  induction x, y using haversine_cases with
  | h2 x0 x1 y0 y1 => rw [haversine_eq_havRad, haversine_eq_havRad, havRad_symm]
  | hn x y hxy hyx => rw [hxy, hyx]

theorem two_arcsin_range (t : ℝ) (h : 0 ≤ t) :
    0 ≤ 2 * Real.arcsin t ∧ 2 * Real.arcsin t ≤ Real.pi :=
  ⟨mul_nonneg zero_le_two (Real.arcsin_nonneg.mpr h),
    by linear_combination 2 * Real.arcsin_le_pi_div_two t⟩

theorem haversine_range (x y : List ℝ) (d : ℝ) (h : haversine realT x y = some d) :
    0 ≤ d ∧ d ≤ Real.pi := by
  induction x, y using haversine_cases with
  | h2 x0 x1 y0 y1 =>
    rw [haversine_eq_havRad, Option.some.injEq] at h
    rw [← h]; exact two_arcsin_range _ (Real.sqrt_nonneg _)
  | hn x y hxy _ => rw [hxy] at h; cases h

theorem haversine_self (a b : ℝ) : haversine realT [a, b] [a, b] = some 0 := by
  rw [haversine_eq_havRad]
  simp [havRad]

/-- non-vacuity: the distance between two concrete points is defined. -/
example : ∃ d, haversine realT [0, 0] [1, 2] = some d := ⟨_, haversine_eq_havRad 0 0 1 2⟩

/-! `Real.arcsin` is clamped outside `[-1, 1]`, so `haversine_range` alone does not show that the code
stays inside the domain of `arcsin`.  It does, for every input and not only for latitudes in
`[-π/2, π/2]`: the radicand is a convex combination of `sin² ((x₀-y₀)/2)` and `cos² ((x₀+y₀)/2)`. -/

/-- by the half-angle formulas the right side is `½ (cos (x₀ + y₀) + cos (x₀ - y₀))`. -/
theorem cos_mul_cos_eq (x0 y0 : ℝ) :
    Real.cos x0 * Real.cos y0
      = Real.cos (1 / 2 * (x0 + y0)) ^ 2 - Real.sin (1 / 2 * (x0 - y0)) ^ 2 := by
  rw [Real.cos_sq, Real.sin_sq_eq_half_sub, ← mul_assoc, ← mul_assoc, mul_one_div_cancel two_ne_zero,
    one_mul, one_mul, Real.cos_add, Real.cos_sub]
  ring

/-- the radicand as a convex combination. -/
theorem havRad_eq (x0 x1 y0 y1 : ℝ) :
    havRad x0 x1 y0 y1
      = Real.sin (1 / 2 * (x0 - y0)) ^ 2 * (1 - Real.sin (1 / 2 * (x1 - y1)) ^ 2)
        + Real.cos (1 / 2 * (x0 + y0)) ^ 2 * Real.sin (1 / 2 * (x1 - y1)) ^ 2 := by
  unfold havRad
  rw [cos_mul_cos_eq]
  ring

theorem convex_comb_unit {a c s : ℝ} (a0 : 0 ≤ a) (a1 : a ≤ 1) (c0 : 0 ≤ c) (c1 : c ≤ 1)
    (s0 : 0 ≤ s) (s1 : s ≤ 1) : 0 ≤ a * (1 - s) + c * s ∧ a * (1 - s) + c * s ≤ 1 := by
  have t0 := sub_nonneg.mpr s1
  -- each term is at most its weight, and the weights add up to `1`
  exact ⟨add_nonneg (mul_nonneg a0 t0) (mul_nonneg c0 s0),
    (add_le_add (mul_le_of_le_one_left t0 a1) (mul_le_of_le_one_left s0 c1)).trans_eq
      (sub_add_cancel 1 s)⟩

/-- for every input the radicand of `haversine` lies in `[0, 1]`: the square root and the
    `arcsin` are taken inside their domains. -/
theorem haversine_radicand_range (x0 x1 y0 y1 : ℝ) :
    0 ≤ havRad x0 x1 y0 y1 ∧ havRad x0 x1 y0 y1 ≤ 1 := by
  rw [havRad_eq]
  exact convex_comb_unit (sq_nonneg _) (Real.sin_sq_le_one _) (sq_nonneg _) (Real.cos_sq_le_one _)
    (sq_nonneg _) (Real.sin_sq_le_one _)

/-- hence the returned `d` is the textbook great-circle distance: `sin² (d/2)` *is* the
    haversine expression (no clamping by `arcsin` takes place). -/
theorem haversine_sin_sq_half (x0 x1 y0 y1 d : ℝ)
    (h : haversine realT [x0, x1] [y0, y1] = some d) :
    Real.sin (d / 2) ^ 2 = havRad x0 x1 y0 y1 := by
  rw [haversine_eq_havRad] at h
  have hd := Option.some.inj h
  obtain ⟨h0, h1⟩ := haversine_radicand_range x0 x1 y0 y1
  have hs1 : Real.sqrt (havRad x0 x1 y0 y1) ≤ 1 := Real.sqrt_le_one.mpr h1
  have hs0 : -1 ≤ Real.sqrt (havRad x0 x1 y0 y1) :=
    (neg_one_lt_zero.le.trans (Real.sqrt_nonneg _))
  rw [← hd, mul_div_cancel_left₀ _ (two_ne_zero), Real.sin_arcsin hs0 hs1, Real.sq_sqrt h0]

/-- antipodal points are at distance `π`: the upper bound of `haversine_range` is attained. -/
example : haversine realT [0, 0] [0, Real.pi] = some Real.pi := by
  rw [haversine_eq_havRad, havRad]
  simp only [sub_self, mul_zero, Real.sin_zero, Real.cos_zero, zero_sub, mul_neg,
    one_div_mul_eq_div, Real.sin_neg, Real.sin_pi_div_two, neg_neg, mul_one, zero_add,
    Real.sqrt_one, Real.arcsin_one]
  -- `2 * (π / 2) = π`
  exact congrArg some (mul_div_cancel₀ _ two_ne_zero)

/-- non-vacuity of `haversine_sin_sq_half`. -/
example : ∃ d, haversine realT [1, 2] [3, 5] = some d ∧ Real.sin (d / 2) ^ 2 = havRad 1 2 3 5 :=
  ⟨_, haversine_eq_havRad 1 2 3 5, haversine_sin_sq_half _ _ _ _ _ (haversine_eq_havRad 1 2 3 5)⟩

/-- The live table `umap.umap_.DISCONNECTION_DISTANCES` (regenerated into
    `Generated.disconnectionDistances`) assigns to each bounded metric the supremum proved above:
    * `"cosine"` ↦ 2 — `cosine_range`;
    * `"correlation"` ↦ 2 — `correlation_range`;
    * `"hellinger"` ↦ 1 — `hellinger_range`;
    * `"jaccard"`, `"dice"` ↦ 1 — `binary_unit_range` (in `UmapProps.C12`, on support counts). -/
theorem disconnection_suprema :
    Generated.disconnectionDistances.lookup "cosine" = some 2
    ∧ Generated.disconnectionDistances.lookup "correlation" = some 2
    ∧ Generated.disconnectionDistances.lookup "hellinger" = some 1
    ∧ Generated.disconnectionDistances.lookup "jaccard" = some 1
    ∧ Generated.disconnectionDistances.lookup "dice" = some 1 := by
  decide +kernel

theorem disconnection_bounds (x y : List ℝ) (h : x.length = y.length) :
    (∀ q, Generated.disconnectionDistances.lookup "cosine" = some q →
        cosine realT x y ≤ (q : ℝ))
    ∧ (∀ q, Generated.disconnectionDistances.lookup "correlation" = some q →
        correlation realT x y ≤ (q : ℝ))
    ∧ (∀ q, Generated.disconnectionDistances.lookup "hellinger" = some q →
        hellinger realT x y ≤ (q : ℝ)) := by
  obtain ⟨h1, h2, h3, _, _⟩ := disconnection_suprema
  -- a bound by the value the table holds is a bound by whatever the lookup returns
  have key : ∀ {name : String} {c : ℚ} {d : ℝ}, Generated.disconnectionDistances.lookup name = some c →
      d ≤ c → ∀ q, Generated.disconnectionDistances.lookup name = some q → d ≤ (q : ℝ) :=
    fun e hd q hq => Option.some.inj (e.symm.trans hq) ▸ hd
  exact ⟨key h1 (by exact_mod_cast (cosine_range x y h).2),
    key h2 (by exact_mod_cast (correlation_range x y h).2),
    key h3 (by exact_mod_cast (hellinger_range x y).2)⟩

/-! further non-vacuity instances for the implication theorems above -/

example : euclidean realT [1, 2] [1, 2] = 0 ∧ ([1, 2] : List ℝ).length = ([1, 2] : List ℝ).length :=
  ⟨euclidean_self _, rfl⟩

example : minkowski realT 3 [1, 2] [1, 2] = 0 := minkowski_self 3 (by norm_num) _

example : cosine realT [0, 0] [0, 3] = 1 :=
  cosine_zero_left _ _ (forall_mem_pair rfl rfl) ⟨3, by simp, by norm_num⟩

example : correlation realT [1, 1] [1, 2] = 1 := by
  apply correlation_const_left _ _ 1
  · exact forall_mem_pair rfl rfl
  · rintro ⟨c, hc⟩
    -- `1 = c = 2`
    exact absurd ((hc 1 (List.mem_cons_self ..)).trans
      (hc 2 (List.mem_cons_of_mem _ (List.mem_cons_self ..))).symm) (by norm_num)

example : correlation realT [1, 1] [5, 5] = 0 :=
  correlation_const_const _ _ rfl 1 5 (forall_mem_pair rfl rfl)
    (forall_mem_pair rfl rfl)

example : hellinger realT [0, 0] [1, 2] = 1 := by
  apply hellinger_zero_left
  · exact forall_mem_pair rfl rfl
  · simp only [sumL_cons, sumL_nil]; norm_num

example : hellinger realT [1, 2] [1, 2] = 0 :=
  hellinger_self _ (forall_mem_pair (by norm_num) (by norm_num))

end C12
end Umap
