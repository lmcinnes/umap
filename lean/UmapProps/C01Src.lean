/-
  C01Src — `compute_membership_strengths` as generated from the source text of umap/umap_.py
  (`Generated/UmapSrc.lean`, `SrcUmap.computeMembershipStrengths`): its four outputs in closed form
  (`computeMembershipStrengths_grid`, flat `n × k` tables), read cell by cell
  (`computeMembershipStrengths_src`) and row by row against the hand-written model `Knn.member` /
  `Knn.memberRow` (`memberRow_src`; finite distances, finite rho).

  Generality: any scalar type `α` (the unbundled instance list of `Generated/UmapSrc.lean`), no
  algebraic facts are used; no shape hypotheses are needed for the cell theorem (the translation
  reads with `getD`, so `n := knn_indices.length`, `k := (knn_indices.getD 0 []).length`).
-/
import UmapModel.Knn
import Generated.UmapSrc
import UmapProofs.C01SrcLemmas

-- the instance list below fronts fixed statements
set_option linter.unusedSectionVars false

namespace Umap
namespace C01Src
open C01SrcLemmas

section cells
-- what the kernel and `Knn.member` use of the scalars
variable {α : Type} [Sub α] [Div α] [Neg α] [LE α] [DecidableLE α] [OfNat α 0] [OfNat α 1]

/-- the neighbour index read by the source at cell `(i, j)`. -/
abbrev idxAt (knn_indices : List (List Int)) (i j : Nat) : Int := (knn_indices.getD i []).getD j 0

/-- the distance read by the source at cell `(i, j)`. -/
abbrev distAt (knn_dists : List (List α)) (i j : Nat) : α := (knn_dists.getD i []).getD j 0

/-- the value the source stores in `vals` at a non-skipped cell. -/
def valAt (T : Transc α) (knn_indices : List (List Int)) (knn_dists : List (List α))
    (sigmas rhos : List α) (bip : Bool) (i j : Nat) : α :=
  if (!bip && idxAt knn_indices i j == ((i : Nat) : Int)) then 0
  else Knn.member T (distAt knn_dists i j) (rhos.getD i 0) (sigmas.getD i 0)

/-- the source's `d - rho <= 0 or sigma == 0` branch is the model's `Knn.member`. -/
theorem member_src (T : Transc α) (d r s : α) :
    (if (decide (d - r ≤ 0) || eqV s 0) then (1 : α) else T.exp (-((d - r) / s)))
      = Knn.member T d r s := by
  unfold Knn.member eqV
  simp only [Bool.or_eq_true, Bool.and_eq_true, decide_eq_true_eq]

/-- the generated kernel fills four flat `n × k` tables (the fourth only when `return_dists`); `n` and `k` are
    what the source reads: the number of rows and the length of row 0. -/
theorem computeMembershipStrengths_grid (T : Transc α) (knn_indices : List (List Int))
    (knn_dists : List (List α)) (sigmas rhos : List α) (rd bip : Bool) (n k : Nat)
    (hn : knn_indices.length = n) (hk : (knn_indices.getD 0 []).length = k) :
    SrcUmap.computeMembershipStrengths T knn_indices knn_dists sigmas rhos rd bip
      = (flat n k fun i j => if idxAt knn_indices i j = -1 then 0 else ((i : Nat) : Int),
         flat n k fun i j => if idxAt knn_indices i j = -1 then 0 else idxAt knn_indices i j,
         flat n k fun i j =>
           if idxAt knn_indices i j = -1 then 0 else valAt T knn_indices knn_dists sigmas rhos bip i j,
         if rd then flat n k (fun i j => if idxAt knn_indices i j = -1 then 0 else distAt knn_dists i j)
         else []) := by
  subst hn hk
  refine (Eq.trans ?_ (grid4 (fun i j => idxAt knn_indices i j == (-1 : Int))
    (fun i _ => ((i : Nat) : Int)) (fun i j => idxAt knn_indices i j)
    (valAt T knn_indices knn_dists sigmas rhos bip) (distAt knn_dists) rd knn_indices.length
    (knn_indices.getD 0 []).length 0 0 0 0)).trans ?_
  · unfold SrcUmap.computeMembershipStrengths valAt idxAt distAt
    simp only [member_src]
  · simp only [Bool.not_eq_true', beq_eq_false_iff_ne, ne_eq, ite_not]

/-- the model's encoding of a neighbour index: `-1` is "skipped". -/
def encIdx (c : Int) : Option Nat := if c = -1 then none else some c.toNat

theorem toNat_beq {c : Int} (h : 0 ≤ c) (i : Nat) : (c.toNat == i) = (c == (i : Int)) := by
  obtain ⟨m, rfl⟩ := Int.eq_ofNat_of_zero_le h
  rw [Int.toNat_natCast, Bool.eq_iff_iff, beq_iff_eq, beq_iff_eq, Int.natCast_inj]

/-- the model row, read by position (finite distances, finite rho). -/
theorem memberRow_fin (T : Transc α) (bip : Bool) (i : Nat) (s r : α) (idx : List Int)
    (ds : List α) (h : idx.length = ds.length) :
    Knn.memberRow T bip i s (.fin r) (idx.map encIdx) (ds.map some)
      = (List.range idx.length).map (fun j =>
          if idx.getD j 0 = -1 then none
          else some ((idx.getD j 0).toNat,
            some (if (!bip && (idx.getD j 0).toNat == i) then 0
                  else Knn.member T (ds.getD j 0) r s))) := by
  unfold Knn.memberRow
  rw [List.zip_map, List.map_map, SrcLemmas.zip_eq_map_range idx ds 0 0 rfl h.symm, List.map_map]
  refine List.map_congr_left fun j _ => ?_
  dsimp only [Function.comp, Prod.map, encIdx]
  generalize idx.getD j 0 = c
  by_cases hc : c = -1
  · rw [if_pos hc, if_pos hc]
  · rw [if_neg hc, if_neg hc]
    -- the model's `match` on `some c`, then its test for the sample itself
    dsimp only
    split <;> rfl

end cells

section generic
variable {α : Type} [Add α] [Sub α] [Mul α] [Div α] [Neg α] [LT α] [LE α]
  [DecidableLT α] [DecidableLE α] [OfNat α 0] [OfNat α 1] [NatCast α]

/-- **`compute_membership_strengths`, every cell.**  No shape hypotheses: with
    `n := knn_indices.length`, `k := (knn_indices.getD 0 []).length` (what the source reads),
    all four outputs have length `n * k` (`dists` is `[]` when `return_dists = false`), and cell
    `i * k + j` holds `0` if the neighbour index is `-1`, else `(i, c, strength, dist)` with the
    strength given by the model's `Knn.member` (or `0` for the sample itself unless bipartite). -/
theorem computeMembershipStrengths_src (T : Transc α) (knn_indices : List (List Int))
    (knn_dists : List (List α)) (sigmas rhos : List α) (rd bip : Bool) :
    let n := knn_indices.length
    let k := (knn_indices.getD 0 []).length
    let out := SrcUmap.computeMembershipStrengths T knn_indices knn_dists sigmas rhos rd bip
    out.1.length = n * k ∧ out.2.1.length = n * k ∧ out.2.2.1.length = n * k ∧
    out.2.2.2.length = (if rd then n * k else 0) ∧
    ∀ i < n, ∀ j < k,
      let c := (knn_indices.getD i []).getD j 0
      if c = -1 then
        out.1.getD (i * k + j) 0 = 0 ∧ out.2.1.getD (i * k + j) 0 = 0 ∧
        out.2.2.1.getD (i * k + j) 0 = 0 ∧ out.2.2.2.getD (i * k + j) 0 = 0
      else
        out.1.getD (i * k + j) 0 = (i : Int) ∧ out.2.1.getD (i * k + j) 0 = c ∧
        out.2.2.1.getD (i * k + j) 0 =
          (if (!bip && c == (i : Int)) then 0
           else Knn.member T ((knn_dists.getD i []).getD j 0) (rhos.getD i 0) (sigmas.getD i 0)) ∧
        out.2.2.2.getD (i * k + j) 0 = (if rd then (knn_dists.getD i []).getD j 0 else 0) := by
  intro n k out
  have ho : out = _ :=
    computeMembershipStrengths_grid T knn_indices knn_dists sigmas rhos rd bip n k rfl rfl
  -- only `i < n`, `j < k` matter from here on
  clear_value n k out
  subst ho
  dsimp only
  refine ⟨length_flat .., length_flat .., length_flat .., ?_, fun i hi j hj => ?_⟩
  · rw [apply_ite List.length, length_flat, List.length_nil]
  · simp only [apply_ite (List.getD · (i * k + j) (0 : α)), getD_flat _ _ hi hj, List.getD_nil]
    by_cases hc : (knn_indices.getD i []).getD j 0 = -1
    · simp only [if_pos hc, ite_self, and_self]
    · simp only [if_neg hc, valAt, and_self]

/-- **Row corollary.**  For rectangular inputs whose indices are `-1` or non-negative, row `i` of the
    model's directed membership table (`Knn.memberRow`, finite distances, finite rho) is exactly what
    the source wrote into `cols` / `vals` at flat positions `i * k + j`. -/
theorem memberRow_src (T : Transc α) (knn_indices : List (List Int))
    (knn_dists : List (List α)) (sigmas rhos : List α) (rd bip : Bool) (n k : Nat)
    (hn : knn_indices.length = n) (hrow : ∀ r ∈ knn_indices, r.length = k)
    (i : Nat) (hi : i < n) (hd : (knn_dists.getD i []).length = k)
    (hnonneg : ∀ j < k, (knn_indices.getD i []).getD j 0 = -1 ∨ 0 ≤ (knn_indices.getD i []).getD j 0) :
    let out := SrcUmap.computeMembershipStrengths T knn_indices knn_dists sigmas rhos rd bip
    Knn.memberRow T bip i (sigmas.getD i 0) (.fin (rhos.getD i 0))
        ((knn_indices.getD i []).map encIdx) ((knn_dists.getD i []).map some)
      = (List.range k).map (fun j =>
          if (knn_indices.getD i []).getD j 0 = -1 then none
          else some ((out.2.1.getD (i * k + j) 0).toNat, some (out.2.2.1.getD (i * k + j) 0))) := by
  intro out
  have hlen : (knn_indices.getD i []).length = k := hrow _ (SrcLemmas.getD_mem (hn ▸ hi))
  -- the source reads `k` off row 0
  have hk0 : (knn_indices.getD 0 []).length = k :=
    hrow _ (SrcLemmas.getD_mem (hn ▸ Nat.zero_lt_of_lt hi))
  have ho : out = _ :=
    computeMembershipStrengths_grid T knn_indices knn_dists sigmas rhos rd bip n k hn hk0
  rw [memberRow_fin T bip i _ _ _ _ (hlen.trans hd.symm), hlen, ho]
  refine SrcLemmas.map_range_congr fun j hj => ?_
  dsimp only
  rw [getD_flat _ _ hi hj, getD_flat _ _ hi hj]
  by_cases hneg : (knn_indices.getD i []).getD j 0 = -1
  · rw [if_pos hneg, if_pos hneg]
  · simp only [if_neg hneg, valAt, toNat_beq ((hnonneg j hj).resolve_left hneg)]

end generic
end C01Src
end Umap
