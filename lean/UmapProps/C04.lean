/-
  C04 — disconnection: no edge of the fitted graph joins two samples that are not neighbours in
  either direction, and a sample is isolated exactly when all its blended strengths vanish.

  Model: `Umap.Graph.symmetrize r A` (umap_.py `fuzzy_simplicial_set`).  `near i j` stands for
  "the distance between samples `i` and `j` is below the disconnection distance" (a symmetric
  relation); the directed matrix `A` only carries non-zero strength between near samples
  (entries at or beyond `disconnection_distance` are removed before the membership strengths are
  computed).  Everything holds over every linear ordered field.
-/
import UmapProps.C02

namespace Umap
namespace C04
open Graph

section Stored
variable {K : Type} [Field K] [LinearOrder K]

theorem edge_iff_mix_ne_zero (r : K) (A : Coo K) (i j : Nat) :
    (∃ v, (i, j, v) ∈ symmetrize r A) ↔ mix r (lookup A i j) (lookup A j i) ≠ 0 := by
  simp only [mem_symmetrize, exists_eq_left]

/-- (pure intersection, `r = 0`) an edge is stored iff both directed strengths are
    non-zero (no hypothesis on the values). -/
theorem edge_iff_of_zero (A : Coo K) (i j : Nat) :
    (∃ v, (i, j, v) ∈ symmetrize (0:K) A) ↔ (lookup A i j ≠ 0 ∧ lookup A j i ≠ 0) := by
  rw [edge_iff_mix_ne_zero, mix_zero, mul_ne_zero_iff]

end Stored

section Symmetrize
variable {K : Type} [Field K] [LinearOrder K] [IsStrictOrderedRing K]

/-- if the directed matrix is supported on a symmetric relation `near`, so is
    the symmetrised graph (for every mix ratio `r`, no hypothesis on the values). -/
theorem no_far_edge (near : Nat → Nat → Prop) (hsymm : ∀ i j, near i j → near j i)
    (r : K) (A : Coo K) (hA : ∀ i j, lookup A i j ≠ 0 → near i j)
    (i j : Nat) (v : K) (h : (i, j, v) ∈ symmetrize r A) : near i j :=
  (support_of_mem_symmetrize h).elim (hA i j) fun h1 => hsymm j i (hA j i h1)

/-- the same with the hypothesis on the stored triples of `A`. -/
theorem no_far_edge_of_stored (near : Nat → Nat → Prop) (hsymm : ∀ i j, near i j → near j i)
    (r : K) (A : Coo K) (hA : ∀ t ∈ A, near t.1 t.2.1)
    (i j : Nat) (v : K) (h : (i, j, v) ∈ symmetrize r A) : near i j := by
  apply no_far_edge near hsymm r A _ i j v h
  intro a b hab
  obtain ⟨w, hw⟩ := lookup_ne_zero_mem A a b hab
  exact hA _ hw

/-- contrapositive: two samples at or beyond the disconnection distance are never joined. -/
theorem far_not_joined (near : Nat → Nat → Prop) (hsymm : ∀ i j, near i j → near j i)
    (r : K) (A : Coo K) (hA : ∀ i j, lookup A i j ≠ 0 → near i j)
    (i j : Nat) (hfar : ¬ near i j) (v : K) : (i, j, v) ∉ symmetrize r A :=
  fun h => hfar (no_far_edge near hsymm r A hA i j v h)

/-- (union part present, `0 < r ≤ 1`) an edge is stored iff either directed
    strength is non-zero. -/
theorem edge_iff_of_pos (r : K) (hr0 : 0 < r) (hr1 : r ≤ 1) (A : Coo K) (hA : C02.UnitValued A)
    (i j : Nat) :
    (∃ v, (i, j, v) ∈ symmetrize r A) ↔ (lookup A i j ≠ 0 ∨ lookup A j i ≠ 0) := by
  rw [edge_iff_mix_ne_zero]
  constructor
  · exact mix_support
  · intro h
    exact ne_of_gt (mix_pos_of_pos hr0 hr1 (hA i j).1 (hA i j).2 (hA j i).1 (hA j i).2 h)

/-- (`0 < r ≤ 1`) row `i` of the fitted graph is empty iff sample `i` has no
    non-zero directed strength to or from any sample. -/
theorem isolated_iff (r : K) (hr0 : 0 < r) (hr1 : r ≤ 1) (A : Coo K) (hA : C02.UnitValued A)
    (i : Nat) :
    (∀ j v, (i, j, v) ∉ symmetrize r A) ↔ ∀ j, lookup A i j = 0 ∧ lookup A j i = 0 := by
  refine forall_congr' fun j => ?_
  rw [← not_exists, edge_iff_of_pos r hr0 hr1 A hA i j, not_or, not_not, not_not]

/-- (`r = 0`) with a pure intersection the row is empty iff no neighbour
    relation of `i` is reciprocated. -/
theorem isolated_iff_zero (A : Coo K) (i : Nat) :
    (∀ j v, (i, j, v) ∉ symmetrize (0:K) A) ↔ ∀ j, lookup A i j = 0 ∨ lookup A j i = 0 := by
  refine forall_congr' fun j => ?_
  rw [← not_exists, edge_iff_of_zero, not_and_or, not_not, not_not]

/-- a sample all of whose neighbours are beyond the disconnection distance (its row of the
    directed matrix is zero and nobody points to it) is isolated, for every `r`. -/
theorem isolated_of_no_strength (r : K) (A : Coo K) (i : Nat)
    (h : ∀ j, lookup A i j = 0 ∧ lookup A j i = 0) (j : Nat) (v : K) :
    (i, j, v) ∉ symmetrize r A :=
  fun hm => (support_of_mem_symmetrize hm).elim (· (h j).1) (· (h j).2)

/-- a duplicate-free matrix whose stored values are in `[0, 1]` is `UnitValued`
    (so the hypothesis of `edge_iff_of_pos` / `isolated_iff` is checkable on the triples). -/
theorem unitValued_of_stored (A : Coo K) (hd : NoDup A) (h : ∀ t ∈ A, 0 ≤ t.2.2 ∧ t.2.2 ≤ 1) :
    C02.UnitValued A := by
  intro i j
  by_cases hz : lookup A i j = 0
  · rw [hz]; exact ⟨le_refl _, zero_le_one⟩
  · obtain ⟨v, hv⟩ := lookup_ne_zero_mem A i j hz
    rw [lookup_of_mem_nodup A hd i j v hv]
    exact h _ hv

end Symmetrize

/-- the hypothesis `≤ 1` in `edge_iff_of_pos` cannot be dropped: with non-negative but
    unbounded "strengths" `a = b = 2` the pure union `a + b - ab` cancels. -/
example : mix (1:ℚ) 2 2 = 0 := by decide +kernel

/-! ### non-vacuity over ℚ: sample 3 is disconnected -/

def exA : Coo ℚ := [(0, 1, 1), (0, 2, 1/2), (1, 0, 1/4), (2, 1, 1)]

/-- `near`: everything among samples 0,1,2. -/
def exNear (i j : Nat) : Prop := i ≤ 2 ∧ j ≤ 2

example : ∀ i j, exNear i j → exNear j i := fun _ _ h => ⟨h.2, h.1⟩

example : ∀ t ∈ exA, exNear t.1 t.2.1 := by unfold exNear; decide +kernel

example : C02.UnitValued exA :=
  unitValued_of_stored exA (by unfold NoDup; decide +kernel) (by decide +kernel)

example : (2, 0, (1/2:ℚ)) ∈ symmetrize (1:ℚ) exA := by decide +kernel
example : ∀ t ∈ symmetrize (1:ℚ) exA, t.1 ≠ 3 ∧ t.2.1 ≠ 3 := by decide +kernel
example : (2, 0, (1/2:ℚ)) ∉ symmetrize (0:ℚ) exA := by decide +kernel
example : symmetrize (0:ℚ) exA = [(0, 1, 1/4), (1, 0, 1/4)] := by decide +kernel

/-! ### `init_graph_transform`: where a new point starts (umap_.py `init_graph_transform`)

  `row` is the new point's row of the bipartite graph, as `(training index, strength)` pairs;
  `emb i` is the position of training point `i`. -/

section InitTransform
variable {K : Type} [Field K] [LinearOrder K] [IsStrictOrderedRing K]

/-- a non-empty row: the position of the first training point of strength exactly 1 if there is
    one, else the strength-weighted mean. -/
theorem initGraphTransformRow_of_ne_nil {row : List (Nat × K)} (hne : row ≠ []) (emb : Nat → List K)
    (dim : Nat) :
    initGraphTransformRow row emb dim = some
      (match row.find? (fun p => eqV p.2 1) with
      | some p => emb p.1
      | none => (List.range dim).map fun d =>
          sumL (row.map fun p => p.2 / sumL (row.map (·.2)) * (emb p.1).getD d 0)) := by
  unfold initGraphTransformRow
  rw [if_neg (mt List.length_eq_zero_iff.1 hne)]
  cases row.find? (fun p => eqV p.2 1) <;> rfl

/-- a new point gets the all-NaN initialisation exactly when its graph row is
    empty, i.e. when it has no neighbour within the disconnection distance. -/
theorem init_nan_iff (row : List (Nat × K)) (emb : Nat → List K) (dim : Nat) :
    initGraphTransformRow row emb dim = none ↔ row = [] := by
  constructor
  · intro h
    by_contra hne
    rw [initGraphTransformRow_of_ne_nil hne] at h
    cases h
  · rintro rfl
    rfl

/-- if the row has an entry of strength exactly 1, the result is the position of a
    training point with strength exactly 1 (the model takes the first such entry of the row,
    `initGraphTransformRow_of_ne_nil`). -/
theorem init_copy (row : List (Nat × K)) (emb : Nat → List K) (dim : Nat)
    (p : Nat × K) (hp : p ∈ row) (h1 : p.2 = 1) :
    ∃ q ∈ row, q.2 = 1 ∧ initGraphTransformRow row emb dim = some (emb q.1) := by
  rw [initGraphTransformRow_of_ne_nil (List.ne_nil_of_mem hp)]
  cases hf : row.find? (fun p => eqV p.2 1) with
  | none => exact absurd ((eqV_iff _ _).2 h1) (List.find?_eq_none.1 hf p hp)
  | some q =>
    have hq := List.find?_some hf
    exact ⟨q, List.mem_of_find?_eq_some hf, (eqV_iff _ _).1 hq, rfl⟩

/-- when the unit-strength entry is unique, the new point starts exactly at that training point. -/
theorem init_copy_unique (row : List (Nat × K)) (emb : Nat → List K) (dim : Nat)
    (p : Nat × K) (hp : p ∈ row) (h1 : p.2 = 1) (hu : ∀ q ∈ row, q.2 = 1 → q.1 = p.1) :
    initGraphTransformRow row emb dim = some (emb p.1) := by
  obtain ⟨q, hq, hq1, h⟩ := init_copy row emb dim p hp h1
  rw [h, hu q hq hq1]

/--
  The weighted mean.  For a non-empty row with positive strengths and no entry of
  strength exactly 1, the result is a `dim`-vector each of whose coordinates lies between any
  lower and upper bound of the neighbours' coordinates — in particular between their minimum and
  their maximum (`init_convex_min_max`).
-/
theorem init_convex (row : List (Nat × K)) (emb : Nat → List K) (dim : Nat) (hne : row ≠ [])
    (hw : ∀ p ∈ row, 0 < p.2) (hno : ∀ p ∈ row, p.2 ≠ 1) :
    ∃ out, initGraphTransformRow row emb dim = some out ∧ out.length = dim ∧
      ∀ d (hd : d < out.length) (lo hi : K),
        (∀ p ∈ row, lo ≤ (emb p.1).getD d 0 ∧ (emb p.1).getD d 0 ≤ hi) →
        lo ≤ out[d] ∧ out[d] ≤ hi := by
  have hf : row.find? (fun p => eqV p.2 1) = none :=
    List.find?_eq_none.2 fun p hp h => hno p hp ((eqV_iff _ _).1 h)
  rw [initGraphTransformRow_of_ne_nil hne, hf]
  refine ⟨_, rfl, by rw [List.length_map, List.length_range], ?_⟩
  intro d hd lo hi hb
  have hs := sumL_pos (·.2) row hne hw
  -- the weights `p.2 / s` are non-negative and sum to 1
  have := sumL_mul_bounds (fun p : Nat × K => p.2 / sumL (row.map (·.2)))
    (fun p => (emb p.1).getD d 0) lo hi row (fun p hp => (div_pos (hw p hp) hs).le) hb
  rw [sumL_map_div, div_self hs.ne', one_mul, one_mul] at this
  rw [List.getElem_map, List.getElem_range]
  exact this

/-- the same with the explicit running minimum and maximum of the neighbours' `d`-th coordinates. -/
theorem init_convex_min_max (row : List (Nat × K)) (emb : Nat → List K) (dim : Nat) (hne : row ≠ [])
    (hw : ∀ p ∈ row, 0 < p.2) (hno : ∀ p ∈ row, p.2 ≠ 1) :
    ∃ out, initGraphTransformRow row emb dim = some out ∧ out.length = dim ∧
      ∀ d (hd : d < out.length),
        let cs := row.map (fun p => (emb p.1).getD d 0)
        minL (cs.headD 0) cs ≤ out[d] ∧ out[d] ≤ maxL (cs.headD 0) cs := by
  obtain ⟨out, h1, h2, h3⟩ := init_convex row emb dim hne hw hno
  refine ⟨out, h1, h2, ?_⟩
  intro d hd cs
  refine h3 d hd _ _ fun p hp => ?_
  have hm : (emb p.1).getD d 0 ∈ cs := List.mem_map.2 ⟨p, hp, rfl⟩
  exact ⟨minL_le_mem _ _ _ hm, le_maxL _ _ _ hm⟩

end InitTransform

/-! non-vacuity over ℚ: two neighbours with strengths 1/2 and 1/4 in the plane. -/

def exEmb : Nat → List ℚ := fun i => if i = 0 then [0, 3] else if i = 1 then [3, 0] else [9, 9]

example : initGraphTransformRow [(0, (1/2:ℚ)), (1, 1/4)] exEmb 2 = some [1, 2] := by decide +kernel
example : initGraphTransformRow [(0, (1/2:ℚ)), (2, 1), (1, 1/4)] exEmb 2 = some [9, 9] := by
  decide +kernel
example : initGraphTransformRow ([] : List (Nat × ℚ)) exEmb 2 = none := by decide +kernel
example : ([(0, (1/2:ℚ)), (1, 1/4)] : List (Nat × ℚ)) ≠ [] ∧
    (∀ p ∈ ([(0, (1/2:ℚ)), (1, 1/4)] : List (Nat × ℚ)), 0 < p.2) ∧
    (∀ p ∈ ([(0, (1/2:ℚ)), (1, 1/4)] : List (Nat × ℚ)), p.2 ≠ 1) := by decide +kernel

end C04
end Umap
