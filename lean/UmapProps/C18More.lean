/-
  C18 (continued) — value ranges of `general_sset_intersection` (both `right_complement`
  settings), calibration of `reprocess_row` when its loop stops early, and the end-to-end
  statement for `reset_local_connectivity`.

  Model: `Umap.Graph.ssetIntersection`, `reprocessRow`, `resetLocalConnectivity`.
-/
import UmapProps.C18

namespace Umap
namespace C18
open Graph

set_option linter.unusedSectionVars false -- variables of the fixed statements

section
variable {K : Type} [Field K] [LinearOrder K] [IsStrictOrderedRing K]

/-- what is used of the power function: positive on positives, non-negative on non-negatives,
    and at most `1` on `[0, 1]` with a non-negative exponent. -/
structure PowUnit (T : Transc K) : Prop where
  pos : ∀ x y : K, 0 < x → 0 < T.pow x y
  nonneg : ∀ x y : K, 0 ≤ x → 0 ≤ T.pow x y
  le_one : ∀ x y : K, 0 ≤ x → x ≤ 1 → 0 ≤ y → T.pow x y ≤ 1

theorem powUnit_realT : PowUnit realT :=
  ⟨fun _ y h => Real.rpow_pos_of_pos h y, fun _ y h => Real.rpow_nonneg h y,
   fun _ _ h0 h1 hy => Real.rpow_le_one h0 h1 hy⟩

/-- the toy `ratT` (`pow x _ = x`, exact for `mix_weight = 1/2`) qualifies too. -/
theorem powUnit_ratT : PowUnit C16.ratT :=
  ⟨fun _ _ h => h, fun _ _ h => h, fun _ _ _ h _ => h⟩

theorem mul_pow_unit {T : Transc K} (hT : PowUnit T) {a x e : K} (ha : 0 ≤ a ∧ a ≤ 1)
    (hx : 0 ≤ x ∧ x ≤ 1) (he : 0 ≤ e) : 0 ≤ a * T.pow x e ∧ a * T.pow x e ≤ 1 :=
  ⟨mul_nonneg ha.1 (hT.nonneg x e hx.1),
   mul_le_one₀ ha.2 (hT.nonneg x e hx.1) (hT.le_one x e hx.1 hx.2 he)⟩

theorem keptValue_unit {T : Transc K} (hT : PowUnit T) {w l r : K} (hw0 : 0 ≤ w) (hw1 : w ≤ 1)
    (hl : 0 ≤ l ∧ l ≤ 1) (hr : 0 ≤ r ∧ r ≤ 1) :
    0 ≤ keptValue T w l r ∧ keptValue T w l r ≤ 1 := by
  -- both exponents `w / (1 - w)` and `(1 - w) / w` are non-negative on all of `[0, 1]`
  have hw : 0 ≤ 1 - w := sub_nonneg.2 hw1
  unfold keptValue
  split_ifs
  · exact mul_pow_unit hT hl hr (div_nonneg hw0 hw)
  · rw [mul_comm]; exact mul_pow_unit hT hr hl (div_nonneg hw hw0)

theorem keptValue_pos {T : Transc K} (hT : PowUnit T) {w l r : K} (hl : 0 < l) (hr : 0 < r) :
    0 < keptValue T w l r := by
  unfold keptValue
  split_ifs
  · exact mul_pos hl (hT.pos _ _ hr)
  · exact mul_pos (hT.pos _ _ hl) hr

theorem keptValue_posUnit {T : Transc K} (hT : PowUnit T) {w l r : K} (hw0 : 0 ≤ w) (hw1 : w ≤ 1)
    (hl : 0 < l ∧ l ≤ 1) (hr : 0 < r ∧ r ≤ 1) :
    0 < keptValue T w l r ∧ keptValue T w l r ≤ 1 :=
  ⟨keptValue_pos hT hl.1 hr.1, (keptValue_unit hT hw0 hw1 ⟨hl.1.le, hl.2⟩ ⟨hr.1.le, hr.2⟩).2⟩

/-- both settings at once: `left_min = max(min A / 2, eps)` and
    `right_min = min(max(min (rf B) / 2, eps), cap)` are in `(0, 1]`, `right_min ≤ cap`, and the
    result is `interEntry` tabulated over the visited positions. -/
theorem ssetIntersection_some_range {T : Transc K} {eps cap w : K} (he0 : 0 < eps) (he1 : eps ≤ 1)
    (hc0 : 0 < cap) {rc : Bool} {A B U : Coo K} (hA : PosUnit A) (hB : PosUnit B)
    (hU : ssetIntersection T eps cap rc w A B = some U) :
    ∃ lmin rmin0 : K, halfMin eps A id = some lmin ∧ halfMin eps B (rfOf rc) = some rmin0
      ∧ (0 < lmin ∧ lmin ≤ 1) ∧ (0 < minV rmin0 cap ∧ minV rmin0 cap ≤ cap)
      ∧ U = tabulate (interPositions rc A B) (interEntry T rc w A B lmin (minV rmin0 cap)) := by
  obtain ⟨lmin, rmin0, hl, hr, rfl⟩ := ssetIntersection_some hU
  refine ⟨lmin, rmin0, hl, hr, halfMin_range he0 he1 (fun t ht => (hA t ht).2) hl, ?_, rfl⟩
  rw [minV_eq_min]
  exact ⟨lt_min (halfMin_range he0 he1 (fun t ht => (rfOf_unit rc (hB t ht)).2) hr).1 hc0,
    min_le_right _ _⟩

/-- the description of every entry of the plain intersection (`right_complement = False`). -/
structure InterEntrySpec (T : Transc K) (w : K) (A B : Coo K) (lmin rmin : K)
    (t : Nat × Nat × K) : Prop where
  /-- `left_val` is in `(0, 1]` -/
  left_range : 0 < storedOr A t.1 t.2.1 lmin ∧ storedOr A t.1 t.2.1 lmin ≤ 1
  /-- `right_val` is in `(0, 1]` -/
  right_range : 0 < storedOr B t.1 t.2.1 rmin ∧ storedOr B t.1 t.2.1 rmin ≤ 1
  /-- kept branch: the value is the weighted product, and it lies in `(0, 1]` -/
  kept : lmin < storedOr A t.1 t.2.1 lmin ∨ rmin < storedOr B t.1 t.2.1 rmin →
    t.2.2 = keptValue T w (storedOr A t.1 t.2.1 lmin) (storedOr B t.1 t.2.1 rmin)
      ∧ 0 < t.2.2 ∧ t.2.2 ≤ 1
  /-- other branch: the value is the prior entry of `A + B` (duplicates summed) -/
  prior : ¬ (lmin < storedOr A t.1 t.2.1 lmin ∨ rmin < storedOr B t.1 t.2.1 rmin) →
    t.2.2 = lookup A t.1 t.2.1 + lookup B t.1 t.2.1

/-- over any scalar field, with any power function satisfying `PowUnit`:
    for operands with stored values in `(0, 1]`, `eps, cap ∈ (0, 1]`, `mix_weight ∈ [0, 1]`, the
    result of `general_sset_intersection(right_complement=False)` is computed from
    `left_min = max(min A / 2, eps)` and `right_min = min(max(min B / 2, eps), cap)`, both in
    `(0, 1]` and `right_min ≤ cap`, and every stored entry `t` obeys `InterEntrySpec`:
    on the kept branch the value is `l * r^(w/(1-w))` resp. `l^((1-w)/w) * r` and lies in `(0, 1]`;
    on the other branch it is the prior entry of `A + B`. -/
theorem intersection_entry_range_gen (T : Transc K) (hT : PowUnit T) (eps cap w : K)
    (he0 : 0 < eps) (he1 : eps ≤ 1) (hc0 : 0 < cap) (hc1 : cap ≤ 1) (hw0 : 0 ≤ w) (hw1 : w ≤ 1)
    (A B U : Coo K) (hA : PosUnit A) (hB : PosUnit B)
    (hU : ssetIntersection T eps cap false w A B = some U) :
    ∃ lmin rmin0 : K, halfMin eps A id = some lmin ∧ halfMin eps B id = some rmin0
      ∧ (0 < lmin ∧ lmin ≤ 1) ∧ (0 < minV rmin0 cap ∧ minV rmin0 cap ≤ cap)
      ∧ ∀ t ∈ U, InterEntrySpec T w A B lmin (minV rmin0 cap) t := by
  obtain ⟨lmin, rmin0, hl, hr, hlm, hrm, rfl⟩ := ssetIntersection_some_range he0 he1 hc0 hA hB hU
  refine ⟨lmin, rmin0, hl, hr, hlm, hrm, forall_tabulate fun p _ => ?_⟩
  have h1 := storedOr_range hA p.1 p.2 hlm
  have h2 := storedOr_range hB p.1 p.2 ⟨hrm.1, hrm.2.trans hc1⟩
  refine ⟨h1, h2, fun hk => ?_, fun hk => ?_⟩
  · have e := interEntry_of_kept (T := T) (w := w) (kept_false_iff.2 hk)
    rw [rightVal_false] at e
    exact ⟨e, e ▸ keptValue_posUnit hT hw0 hw1 h1 h2⟩
  · exact interEntry_of_not_kept (mt kept_false_iff.1 hk)

theorem keptValue_real (w l r : ℝ) :
    keptValue realT w l r
      = if w < 1 / 2 then l * r ^ (w / (1 - w)) else l ^ ((1 - w) / w) * r := by
  unfold keptValue
  rw [one_add_one_eq_two]; rfl

/-- over ℝ (`pow` = `Real.rpow`). -/
theorem intersection_entry_range (eps cap w : ℝ)
    (he0 : 0 < eps) (he1 : eps ≤ 1) (hc0 : 0 < cap) (hc1 : cap ≤ 1) (hw0 : 0 ≤ w) (hw1 : w ≤ 1)
    (A B U : Coo ℝ) (hA : PosUnit A) (hB : PosUnit B)
    (hU : ssetIntersection realT eps cap false w A B = some U) :
    ∃ lmin rmin0 : ℝ, halfMin eps A id = some lmin ∧ halfMin eps B id = some rmin0
      ∧ (0 < lmin ∧ lmin ≤ 1) ∧ (0 < minV rmin0 cap ∧ minV rmin0 cap ≤ cap)
      ∧ ∀ t ∈ U, InterEntrySpec realT w A B lmin (minV rmin0 cap) t :=
  intersection_entry_range_gen realT powUnit_realT eps cap w he0 he1 hc0 hc1 hw0 hw1 A B U hA hB hU

/-- the kept-branch clause alone, in plain words: if `(i, j, v)` is stored in the intersection and
    the keep-condition holds at `(i, j)`, then `v` is the weighted product and `0 < v ≤ 1`. -/
theorem intersection_kept_range (eps cap w : ℝ)
    (he0 : 0 < eps) (he1 : eps ≤ 1) (hc0 : 0 < cap) (hc1 : cap ≤ 1) (hw0 : 0 ≤ w) (hw1 : w ≤ 1)
    (A B U : Coo ℝ) (hA : PosUnit A) (hB : PosUnit B)
    (hU : ssetIntersection realT eps cap false w A B = some U) :
    ∃ lmin rmin : ℝ, ∀ i j v, (i, j, v) ∈ U →
      (lmin < storedOr A i j lmin ∨ rmin < storedOr B i j rmin) →
      v = (if w < 1 / 2 then storedOr A i j lmin * storedOr B i j rmin ^ (w / (1 - w))
            else storedOr A i j lmin ^ ((1 - w) / w) * storedOr B i j rmin)
      ∧ 0 < v ∧ v ≤ 1 := by
  obtain ⟨lmin, rmin0, _, _, _, _, h⟩ :=
    intersection_entry_range eps cap w he0 he1 hc0 hc1 hw0 hw1 A B U hA hB hU
  refine ⟨lmin, minV rmin0 cap, fun i j v hv hk => ?_⟩
  have := (h _ hv).kept hk
  rw [keptValue_real] at this
  exact this

/-- the description of every entry of the contrast `A - B`. -/
structure ContrastEntrySpec (T : Transc K) (w : K) (A B : Coo K) (lmin rmin : K)
    (t : Nat × Nat × K) : Prop where
  /-- `left_val` is in `(0, 1]` -/
  left_range : 0 < storedOr A t.1 t.2.1 lmin ∧ storedOr A t.1 t.2.1 lmin ≤ 1
  /-- `right_val` is `right_min` or `1 - b` for a stored `b` of `B` … -/
  right_cases : rightVal true B t.1 t.2.1 rmin = rmin
    ∨ ∃ b, (t.1, t.2.1, b) ∈ B ∧ rightVal true B t.1 t.2.1 rmin = 1 - b
  /-- … hence in `[0, 1]` -/
  right_range : 0 ≤ rightVal true B t.1 t.2.1 rmin ∧ rightVal true B t.1 t.2.1 rmin ≤ 1
  /-- kept branch: the value is the weighted product, and it lies in `[0, 1]` -/
  kept : Kept true A B lmin rmin t.1 t.2.1 →
    t.2.2 = keptValue T w (storedOr A t.1 t.2.1 lmin) (rightVal true B t.1 t.2.1 rmin)
      ∧ 0 ≤ t.2.2 ∧ t.2.2 ≤ 1
  /-- other branch: the value is the prior entry of `A` (duplicates summed) -/
  prior : ¬ Kept true A B lmin rmin t.1 t.2.1 → t.2.2 = lookup A t.1 t.2.1

/-- the same for `general_sset_intersection(right_complement=True)`:
    `right_min = min(max(min (1 - B) / 2, eps), cap)`, `right_val = 1 - b ∈ [0, 1)`, and every
    kept entry lies in `[0, 1]` (it is `0` exactly when `b = 1` kills it). -/
theorem contrast_entry_range_gen (T : Transc K) (hT : PowUnit T) (eps cap w : K)
    (he0 : 0 < eps) (he1 : eps ≤ 1) (hc0 : 0 < cap) (hc1 : cap ≤ 1) (hw0 : 0 ≤ w) (hw1 : w ≤ 1)
    (A B U : Coo K) (hA : PosUnit A) (hB : PosUnit B)
    (hU : ssetIntersection T eps cap true w A B = some U) :
    ∃ lmin rmin0 : K, halfMin eps A id = some lmin
      ∧ halfMin eps B (fun x => 1 - x) = some rmin0
      ∧ (0 < lmin ∧ lmin ≤ 1) ∧ (0 < minV rmin0 cap ∧ minV rmin0 cap ≤ cap)
      ∧ ∀ t ∈ U, ContrastEntrySpec T w A B lmin (minV rmin0 cap) t := by
  obtain ⟨lmin, rmin0, hl, hr, hlm, hrm, rfl⟩ := ssetIntersection_some_range he0 he1 hc0 hA hB hU
  refine ⟨lmin, rmin0, hl, hr, hlm, hrm, forall_tabulate fun p _ => ?_⟩
  have h1 := storedOr_range hA p.1 p.2 hlm
  have h2 := rightVal_unit true hB p.1 p.2 ⟨hrm.1, hrm.2.trans hc1⟩
  refine ⟨h1, (rightVal_spec true B p.1 p.2 _).imp And.left id, h2, fun hk => ?_,
    interEntry_of_not_kept⟩
  have e := interEntry_of_kept (T := T) (w := w) hk
  exact ⟨e, e ▸ keptValue_unit hT hw0 hw1 ⟨h1.1.le, h1.2⟩ h2⟩

/-- over ℝ. -/
theorem contrast_entry_range (eps cap w : ℝ)
    (he0 : 0 < eps) (he1 : eps ≤ 1) (hc0 : 0 < cap) (hc1 : cap ≤ 1) (hw0 : 0 ≤ w) (hw1 : w ≤ 1)
    (A B U : Coo ℝ) (hA : PosUnit A) (hB : PosUnit B)
    (hU : ssetIntersection realT eps cap true w A B = some U) :
    ∃ lmin rmin0 : ℝ, halfMin eps A id = some lmin
      ∧ halfMin eps B (fun x => 1 - x) = some rmin0
      ∧ (0 < lmin ∧ lmin ≤ 1) ∧ (0 < minV rmin0 cap ∧ minV rmin0 cap ≤ cap)
      ∧ ∀ t ∈ U, ContrastEntrySpec realT w A B lmin (minV rmin0 cap) t :=
  contrast_entry_range_gen realT powUnit_realT eps cap w he0 he1 hc0 hc1 hw0 hw1 A B U hA hB hU

/-- the positions visited, as sets: those stored in `A` or `B`, resp. in `A` alone. -/
theorem mem_interPositions (rc : Bool) (A B : Coo K) (i j : Nat) :
    (i, j) ∈ interPositions rc A B ↔
      if rc then (∃ v, (i, j, v) ∈ A) else ((∃ v, (i, j, v) ∈ A) ∨ (∃ v, (i, j, v) ∈ B)) := by
  cases rc
  · exact (mem_positions_append A B _).trans (or_congr (mem_positions A i j) (mem_positions B i j))
  · exact mem_positions A i j

theorem intersection_noDup (T : Transc K) (eps cap w : K) (rc : Bool) (A B U : Coo K)
    (hU : ssetIntersection T eps cap rc w A B = some U) : NoDup U := by
  obtain ⟨_, _, _, _, rfl⟩ := ssetIntersection_some hU
  exact noDup_tabulate (nodup_interPositions rc A B) _

theorem intersection_nonNeg (T : Transc K) (hT : PowUnit T) (eps cap w : K)
    (he0 : 0 < eps) (he1 : eps ≤ 1) (hc0 : 0 < cap) (hc1 : cap ≤ 1) (hw0 : 0 ≤ w) (hw1 : w ≤ 1)
    (rc : Bool) (A B U : Coo K) (hA : PosUnit A) (hB : PosUnit B)
    (hU : ssetIntersection T eps cap rc w A B = some U) : C16.NonNeg U := by
  obtain ⟨lmin, rmin0, _, _, hlm, hrm, rfl⟩ := ssetIntersection_some_range he0 he1 hc0 hA hB hU
  refine forall_tabulate fun p _ => ?_
  have h1 := storedOr_range hA p.1 p.2 hlm
  by_cases hk : Kept rc A B lmin (minV rmin0 cap) p.1 p.2
  · rw [interEntry_of_kept hk]
    exact (keptValue_unit hT hw0 hw1 ⟨h1.1.le, h1.2⟩
      (rightVal_unit rc hB p.1 p.2 ⟨hrm.1, hrm.2.trans hc1⟩)).1
  · rw [interEntry_of_not_kept hk]
    cases rc
    · exact add_nonneg (lookup_nonneg A hA.nonNeg _ _) (lookup_nonneg B hB.nonNeg _ _)
    · exact lookup_nonneg A hA.nonNeg _ _

/-- a stored value that fails `left_val > left_min` is at most `eps` (`1e-8`): the half-minimum
    is below every stored value. -/
theorem stored_le_eps_of_le_halfMin {eps : K} {A : Coo K} (hA : PosUnit A) {lmin : K}
    (h : halfMin eps A id = some lmin) {t : Nat × Nat × K} (ht : t ∈ A) (hle : t.2.2 ≤ lmin) :
    t.2.2 ≤ eps := by
  obtain ⟨d, hd, rfl⟩ := halfMin_some h
  refine (le_max_iff.1 hle).resolve_left fun h2 => ?_
  -- `t ≤ d / 2 ≤ t / 2 < t` is impossible for `t > 0`
  have h1 : d ≤ t.2.2 := (dataMin_some hd).2 t ht
  exact absurd (h2.trans (div_le_div_of_nonneg_right h1 zero_le_two))
    (not_le.2 (half_lt_self (hA t ht).1))

/-- the prior entry of a duplicate-free operand at a position failing the keep-condition is in
    `[0, eps]`, and positive if the position is stored. -/
theorem lookup_prior_bound {eps : K} (he0 : 0 < eps) {A : Coo K} (hA : PosUnit A) (hd : NoDup A)
    {lmin : K} (hl : halfMin eps A id = some lmin) (i j : Nat) {d : K}
    (hle : storedOr A i j d ≤ lmin) :
    0 ≤ lookup A i j ∧ lookup A i j ≤ eps ∧ ((∃ v, (i, j, v) ∈ A) → 0 < lookup A i j) := by
  by_cases hs : ∃ v, (i, j, v) ∈ A
  · obtain ⟨v, hv⟩ := hs
    rw [lookup_of_mem_nodup A hd i j v hv]
    rw [storedOr_of_mem_noDup hd d hv] at hle
    have h0 := (hA _ hv).1
    exact ⟨h0.le, stored_le_eps_of_le_halfMin hA hl hv hle, fun _ => h0⟩
  · rw [lookup_eq_zero_of_not_mem A i j (fun v hv => hs ⟨v, hv⟩)]
    exact ⟨le_refl _, he0.le, fun h => absurd h hs⟩

/-- for duplicate-free operands with stored values in `(0, 1]` and
    `2 eps ≤ 1` (`eps = 1e-8` in the code), *every* stored entry of the plain intersection lies in
    `(0, 1]`: the kept ones as products of memberships, the others because they are sums of
    stored values `≤ eps`. -/
theorem intersection_posUnit (T : Transc K) (hT : PowUnit T) (eps cap w : K)
    (he0 : 0 < eps) (he2 : eps + eps ≤ 1) (hc0 : 0 < cap) (hc1 : cap ≤ 1) (hw0 : 0 ≤ w)
    (hw1 : w ≤ 1) (A B U : Coo K) (hA : PosUnit A) (hB : PosUnit B) (hdA : NoDup A)
    (hdB : NoDup B) (hU : ssetIntersection T eps cap false w A B = some U) : PosUnit U := by
  obtain ⟨lmin, rmin0, hl, hr, _, _, h⟩ := intersection_entry_range_gen T hT eps cap w he0
    ((le_add_of_nonneg_left he0.le).trans he2) hc0 hc1 hw0 hw1 A B U hA hB hU
  intro t ht
  by_cases hk : lmin < storedOr A t.1 t.2.1 lmin
      ∨ minV rmin0 cap < storedOr B t.1 t.2.1 (minV rmin0 cap)
  · exact ((h t ht).kept hk).2
  · -- both stored values are `≤ eps`, and one of them is there
    rw [(h t ht).prior hk]
    rw [not_or, not_lt, not_lt] at hk
    obtain ⟨a0, a1, a2⟩ := lookup_prior_bound he0 hA hdA hl t.1 t.2.1 hk.1
    obtain ⟨b0, b1, b2⟩ := lookup_prior_bound he0 hB hdB hr t.1 t.2.1
      (hk.2.trans (by rw [minV_eq_min]; exact min_le_left _ _))
    refine ⟨?_, (add_le_add a1 b1).trans he2⟩
    rcases (mem_interPositions false A B t.1 t.2.1).1
      ((intersection_support_mem hU _ _).1 ⟨_, ht⟩) with hs | hs
    · exact add_pos_of_pos_of_nonneg (a2 hs) b0
    · exact add_pos_of_nonneg_of_pos a0 (b2 hs)

/-- for a duplicate-free left operand every stored entry of the contrast
    `A - B` lies in `[0, 1]`. -/
theorem contrast_range (T : Transc K) (hT : PowUnit T) (eps cap w : K)
    (he0 : 0 < eps) (he1 : eps ≤ 1) (hc0 : 0 < cap) (hc1 : cap ≤ 1) (hw0 : 0 ≤ w)
    (hw1 : w ≤ 1) (A B U : Coo K) (hA : PosUnit A) (hB : PosUnit B) (hdA : NoDup A)
    (hU : ssetIntersection T eps cap true w A B = some U) :
    ∀ t ∈ U, 0 ≤ t.2.2 ∧ t.2.2 ≤ 1 := by
  obtain ⟨lmin, rmin0, _, _, _, _, h⟩ :=
    contrast_entry_range_gen T hT eps cap w he0 he1 hc0 hc1 hw0 hw1 A B U hA hB hU
  intro t ht
  by_cases hk : Kept true A B lmin (minV rmin0 cap) t.1 t.2.1
  · exact ((h t ht).kept hk).2
  · -- the prior entry is the stored value of `A`
    obtain ⟨v, hv⟩ := contrast_support_subset T eps cap w A B U hU t.1 t.2.1 t.2.2 ht
    rw [(h t ht).prior hk, lookup_of_mem_nodup A hdA _ _ v hv]
    exact ⟨(hA _ hv).1.le, (hA _ hv).2⟩

/-- the intersection succeeds exactly like the union: as soon as both operands store something
    (so the hypothesis `ssetIntersection … = some U` that the theorems of this file carry is
    satisfiable for every non-empty pair of operands, over every field and power function). -/
theorem intersection_isSome (T : Transc K) (eps cap w : K) (rc : Bool) (A B : Coo K)
    (hA : A ≠ []) (hB : B ≠ []) : ∃ U, ssetIntersection T eps cap rc w A B = some U := by
  refine Option.ne_none_iff_exists'.1 ?_
  rw [Ne, ssetIntersection_eq, bind_map_eq_none_iff, halfMin_eq_none, halfMin_eq_none, not_or]
  exact ⟨hA, hB⟩

/-- over any scalar field, with any power function: when the loop of
    `reprocess_row` stopped early, the returned row `q` satisfies `|Σ q − target| < tol`. -/
theorem reprocess_done_calibrated_gen (T : Transc K) (tol target : K) (n : Nat) (ps : List K)
    (hdone : (reprocessState T tol target n ps).done = true) :
    |(reprocessRow T tol target n ps).sum - target| < tol := by
  rw [reprocessRow_eq_state]
  -- "a stopped state is calibrated" is an invariant of the loop: it stops only on its test
  refine foldl_inv
    (fun s : Knn.BState K => s.done = true → |(ps.map fun x => T.pow x s.mid).sum - target| < tol)
    _ (fun s k h => ?_) _ _ (fun h => by cases h) hdone
  rw [reprocessStep_eq]
  exact Bracket.bracketStep_done_inv
    (P := fun m => |(ps.map fun x => T.pow x m).sum - target| < tol) _ _ s h
    fun hst => by rw [← absV_eq_abs, ← sumL_eq_sum]; exact of_decide_eq_true hst

/-- over ℝ: the returned row is `p ↦ p ^ t` for the final exponent
    `t > 0`, and if the loop stopped early its sum is within `tol` of the target. -/
theorem reprocess_done_calibrated (tol target : ℝ) (n : Nat) (ps : List ℝ)
    (hdone : (reprocessState realT tol target n ps).done = true) :
    0 < (reprocessState realT tol target n ps).mid
    ∧ reprocessRow realT tol target n ps
        = ps.map (fun x => x ^ (reprocessState realT tol target n ps).mid)
    ∧ |(reprocessRow realT tol target n ps).sum - target| < tol
    ∧ |(ps.map (fun x => x ^ (reprocessState realT tol target n ps).mid)).sum - target| < tol :=
  have h := bracket_state realT tol target n ps
  ⟨h.1.trans_lt h.2.1, rfl, reprocess_done_calibrated_gen realT tol target n ps hdone,
    reprocess_done_calibrated_gen realT tol target n ps hdone⟩

/-- once the loop has stopped, further iterations change nothing: the state, and the
    returned row, are the same for every larger `n_iters` (this is the `break`). -/
theorem reprocess_done_stable (T : Transc K) (tol target : K) (n m : Nat) (ps : List K)
    (hdone : (reprocessState T tol target n ps).done = true) :
    reprocessState T tol target (n + m) ps = reprocessState T tol target n ps
    ∧ reprocessRow T tol target (n + m) ps = reprocessRow T tol target n ps := by
  have h : reprocessState T tol target (n + m) ps = reprocessState T tol target n ps := by
    unfold reprocessState at hdone ⊢
    rw [List.range_add, List.foldl_append]
    exact List.foldl_fixed' (fun b => reprocessStep_of_done T tol target ps _ b hdone) _
  exact ⟨h, by rw [reprocessRow_eq_state, reprocessRow_eq_state, h]⟩

/-- the fuzzy union `a + b − ab` with `a = 1` is `1` … -/
theorem fuzzy_union_one_left (b : K) : 1 + b - 1 * b = 1 :=
  (mix_one 1 b).symm.trans (C16.union_keeps_one b)

/-- … and with `b = 1` too. -/
theorem fuzzy_union_one_right (a : K) : a + 1 - a * 1 = 1 :=
  (mix_one a 1).symm.trans (C16.union_keeps_one' a)

/-- `reset_local_connectivity` applied to any combined graph `A`
    with non-negative stored values and no duplicate positions (`N` = the row-max normalised
    matrix, `R` = the result):
    1. `R` is symmetric;
    2. every stored entry of `R` is in `(0, 1]`;
    3. every stored entry of `R` is the fuzzy union `a + b − ab` of the two directed values of `N`
       and is at least each of them;
    4. every row of `A` with a positive entry has an entry equal to `1` in `N` (before the union
       with the transpose), and that unit edge survives the union, in both orientations;
    5. every positive entry of `N` is still stored in `R`, with a value at least as large;
    6. the support of `R` is inside the symmetrised support of `A`. -/
theorem reset_after_intersection (A : Coo K) (hA : C16.NonNeg A) (hd : NoDup A) :
    (∀ i j v, (i, j, v) ∈ resetLocalConnectivity A → (j, i, v) ∈ resetLocalConnectivity A)
    ∧ (∀ i j v, (i, j, v) ∈ resetLocalConnectivity A → 0 < v ∧ v ≤ 1)
    ∧ (∀ i j v, (i, j, v) ∈ resetLocalConnectivity A →
        v = lookup (rowMaxNormalize A) i j + lookup (rowMaxNormalize A) j i
              - lookup (rowMaxNormalize A) i j * lookup (rowMaxNormalize A) j i
        ∧ lookup (rowMaxNormalize A) i j ≤ v ∧ lookup (rowMaxNormalize A) j i ≤ v)
    ∧ (∀ i j0 v0, (i, j0, v0) ∈ A → 0 < v0 →
        ∃ j, (i, j, 1) ∈ rowMaxNormalize A
          ∧ (i, j, 1) ∈ resetLocalConnectivity A ∧ (j, i, 1) ∈ resetLocalConnectivity A)
    ∧ (∀ i j u, (i, j, u) ∈ rowMaxNormalize A → 0 < u →
        ∃ v, (i, j, v) ∈ resetLocalConnectivity A ∧ (j, i, v) ∈ resetLocalConnectivity A
          ∧ u ≤ v ∧ v ≤ 1)
    ∧ (∀ i j v, (i, j, v) ∈ resetLocalConnectivity A →
        (∃ u, (i, j, u) ∈ A) ∨ (∃ u, (j, i, u) ∈ A)) := by
  have hN := C16.rowMaxNormalize_unitValued A hA hd
  have hND := C16.rowMaxNormalize_noDup A hd
  exact ⟨combined_symm A, C16.reset_range A hA hd,
    fun _ _ _ h => C16.unionTranspose_dominates hN h, C16.reset_unit_edge A hA hd,
    fun _ _ _ h hu => C16.unionTranspose_keeps_positive hN hND h hu, C16.reset_support A⟩

/-- `reset_local_connectivity (A * B)` resp. `(A - B)` for operands
    with stored values in `(0, 1]`: the result is symmetric, its entries are in `(0, 1]`, its
    support is contained in the (symmetrised) union of the operands' supports — in that of `A`
    for the contrast —, and every sample with a positive entry in the combined matrix `U` ends
    with a unit edge. -/
theorem intersection_then_reset (T : Transc K) (hT : PowUnit T) (eps cap w : K)
    (he0 : 0 < eps) (he1 : eps ≤ 1) (hc0 : 0 < cap) (hc1 : cap ≤ 1) (hw0 : 0 ≤ w) (hw1 : w ≤ 1)
    (rc : Bool) (A B U : Coo K) (hA : PosUnit A) (hB : PosUnit B)
    (hU : ssetIntersection T eps cap rc w A B = some U) :
    (∀ i j v, (i, j, v) ∈ resetLocalConnectivity U → (j, i, v) ∈ resetLocalConnectivity U)
    ∧ (∀ i j v, (i, j, v) ∈ resetLocalConnectivity U → 0 < v ∧ v ≤ 1)
    ∧ (∀ i j v, (i, j, v) ∈ resetLocalConnectivity U →
        (i, j) ∈ interPositions rc A B ∨ (j, i) ∈ interPositions rc A B)
    ∧ (∀ i j0 v0, (i, j0, v0) ∈ U → 0 < v0 →
        ∃ j, (i, j, 1) ∈ resetLocalConnectivity U ∧ (j, i, 1) ∈ resetLocalConnectivity U) := by
  have hNN := intersection_nonNeg T hT eps cap w he0 he1 hc0 hc1 hw0 hw1 rc A B U hA hB hU
  have hND := intersection_noDup T eps cap w rc A B U hU
  obtain ⟨h1, h2, _, h4, _, h6⟩ := reset_after_intersection U hNN hND
  exact ⟨h1, h2, fun i j v h => (h6 i j v h).imp (intersection_support_mem hU i j).1
      (intersection_support_mem hU j i).1,
    fun i j0 v0 h0 hp => (h4 i j0 v0 h0 hp).imp fun _ h => h.2⟩

/-- `reset_local_connectivity (A * B)` for duplicate-free
    operands in `(0, 1]`: symmetric, entries in `(0, 1]`, and *every sample that has an edge in
    either operand* ends with a unit edge. -/
theorem intersection_then_reset_full (T : Transc K) (hT : PowUnit T) (eps cap w : K)
    (he0 : 0 < eps) (he2 : eps + eps ≤ 1) (hc0 : 0 < cap) (hc1 : cap ≤ 1) (hw0 : 0 ≤ w)
    (hw1 : w ≤ 1) (A B U : Coo K) (hA : PosUnit A) (hB : PosUnit B) (hdA : NoDup A)
    (hdB : NoDup B) (hU : ssetIntersection T eps cap false w A B = some U) :
    (∀ i j v, (i, j, v) ∈ resetLocalConnectivity U → (j, i, v) ∈ resetLocalConnectivity U)
    ∧ (∀ i j v, (i, j, v) ∈ resetLocalConnectivity U → 0 < v ∧ v ≤ 1)
    ∧ (∀ i j0 v0, ((i, j0, v0) ∈ A ∨ (i, j0, v0) ∈ B) →
        ∃ j, (i, j, 1) ∈ resetLocalConnectivity U ∧ (j, i, 1) ∈ resetLocalConnectivity U) := by
  have he1 : eps ≤ 1 := (le_add_of_nonneg_left he0.le).trans he2
  obtain ⟨h1, h2, _, h4⟩ :=
    intersection_then_reset T hT eps cap w he0 he1 hc0 hc1 hw0 hw1 false A B U hA hB hU
  have hPU := intersection_posUnit T hT eps cap w he0 he2 hc0 hc1 hw0 hw1 A B U hA hB hdA hdB hU
  refine ⟨h1, h2, fun i j0 v0 hmem => ?_⟩
  -- the position of an edge of either operand is visited, so stored in `U`, with a positive value
  obtain ⟨v, hv⟩ := (intersection_support_mem hU i j0).2 ((mem_interPositions false A B i j0).2
    (hmem.imp (fun h => ⟨v0, h⟩) (fun h => ⟨v0, h⟩)))
  exact h4 i j0 v hv (hPU _ hv).1

end

-- ℚ, `eps = 1e-8`, `cap = 1e-4`, `mix_weight = 1/2` (`ratT.pow x 1 = x` is then exact)
theorem exA_inter_exB : ssetIntersection C16.ratT (1/100000000) (1/10000) false (1/2) exA exB
    = some [(0, 1, 1/2), (0, 2, 1/20000), (1, 0, 1/8), (2, 1, 1/8)] := by decide +kernel

example : ssetIntersection C16.ratT (1/100000000) (1/10000) false (1/2) exA exB
    = some [(0, 1, 1/2), (0, 2, 1/20000), (1, 0, 1/8), (2, 1, 1/8)] := exA_inter_exB
example : ssetIntersection C16.ratT (1/100000000) (1/10000) true (1/2) exA exB
    = some [(0, 1, 1/2), (0, 2, 1/200000000), (1, 0, 1/8)] := by decide +kernel

-- the keep-condition holds at `(0, 1)` (both stored) and at `(0, 2)` (stored in `exA` only) …
example : Kept false exA exB (1/8) (1/10000) 0 1 := by unfold Kept; decide +kernel
example : Kept false exA exB (1/8) (1/10000) 0 2 := by unfold Kept; decide +kernel
-- … and fails where both stored values are `≤ eps`: the entry keeps the sum `1/8 + 1/8`
example : ¬ Kept false ([(0, 1, 1/8), (1, 0, 1)] : Coo ℚ) [(0, 1, 1/8), (2, 0, 1/2)] (1/4) (1/4) 0 1 := by
  unfold Kept; decide +kernel
example : ssetIntersection C16.ratT (1/4 : ℚ) (1/2) false (1/2) [(0, 1, 1/8), (1, 0, 1)]
    [(0, 1, 1/8), (2, 0, 1/2)] = some [(0, 1, 1/4), (1, 0, 1/4), (2, 0, 1/8)] := by decide +kernel

-- all hypotheses of `intersection_entry_range_gen` / `intersection_posUnit` /
-- `intersection_then_reset_full` hold on the ℚ instance
example : PosUnit ([(0, 1, 1/2), (0, 2, 1/20000), (1, 0, 1/8), (2, 1, 1/8)] : Coo ℚ) :=
  intersection_posUnit C16.ratT powUnit_ratT (1/100000000) (1/10000) (1/2) (by decide +kernel)
    (by decide +kernel) (by decide +kernel) (by decide +kernel) (by decide +kernel)
    (by decide +kernel) exA exB _ exA_posUnit exB_posUnit
    (by unfold NoDup; decide +kernel) (by unfold NoDup; decide +kernel) exA_inter_exB

-- after the reset: rows 0, 1, 2 all have a unit edge, the weak edge `(0, 2)` is kept, symmetric
example : resetLocalConnectivity ([(0, 1, 1/2), (0, 2, 1/20000), (1, 0, 1/8), (2, 1, 1/8)] : Coo ℚ)
    = [(0, 1, 1), (0, 2, 1/10000), (1, 0, 1), (2, 1, 1), (2, 0, 1/10000), (1, 2, 1)] := by
  decide +kernel
example : C16.NonNeg ([(0, 1, 1/2), (0, 2, 1/20000), (1, 0, 1/8), (2, 1, 1/8)] : Coo ℚ) := by
  unfold C16.NonNeg; decide +kernel
example : NoDup ([(0, 1, 1/2), (0, 2, 1/20000), (1, 0, 1/8), (2, 1, 1/8)] : Coo ℚ) := by
  unfold NoDup; decide +kernel
-- `C16.reset_unit_edge`: `(2, 1, 1)` is a unit entry of the normalised matrix; `(1, 2)` is
-- not stored there, and the union stores `1` at both
example : (2, 1, (1:ℚ)) ∈ rowMaxNormalize
    ([(0, 1, 1/2), (0, 2, 1/20000), (1, 0, 1/8), (2, 1, 1/8)] : Coo ℚ) := by decide +kernel

-- over ℝ: the hypotheses of `intersection_entry_range` are satisfiable
example : PosUnit ([(0, 1, 1), (0, 2, 1/2)] : Coo ℝ) := by
  intro t ht
  simp only [List.mem_cons, List.not_mem_nil, or_false] at ht
  rcases ht with rfl | rfl <;> norm_num
example : ∃ U, ssetIntersection realT (1/100000000) (1/10000) false (3/10)
    [(0, 1, 1), (0, 2, 1/2)] [(0, 1, 1/2), (2, 1, 1)] = some U :=
  intersection_isSome _ _ _ _ _ _ _ (List.cons_ne_nil _ _) (List.cons_ne_nil _ _)

-- `reprocess_done_calibrated_gen`: the loop does stop early on a ℚ instance …
example : (reprocessState C16.ratT (1/100 : ℚ) (3/2) 3 [1, 1/2]).done = true := by decide +kernel
-- … and over ℝ: `1 ^ 1 + (1/2) ^ 1 = 3/2` hits the target at the first iteration
example : (reprocessState realT (1/100 : ℝ) (3/2) 5 [1, 1/2]).done = true := by
  have h1 : (reprocessState realT (1/100 : ℝ) (3/2) 1 [1, 1/2]).done = true := by
    -- not stopped before; the probe at `mid = 1` is within `tol`: the `break` branch
    rw [reprocessState, List.range_one, List.foldl_cons, List.foldl_nil, reprocessStep,
      if_neg (by decide), if_pos]
    simp only [absV_eq_abs, List.map_cons, List.map_nil, sumL_cons, sumL_nil, realT,
      Knn.bisectInit, Real.rpow_one]
    norm_num
  exact (reprocess_done_stable realT _ _ 1 4 _ h1).1 ▸ h1

theorem quarter_rpow_half : ((1:ℝ) / 4) ^ ((1:ℝ) / 2) = 1 / 2 := by
  rw [← Real.sqrt_eq_rpow]
  rw [show ((1:ℝ) / 4) = (1 / 2) * (1 / 2) by norm_num]
  exact Real.sqrt_mul_self (by norm_num)

/-- a genuine two-step run over ℝ: row `[1, 1/4]`, target `3/2`: `mid = 1` gives `5/4 < 3/2`, so
    `hi = 1`, `mid = 1/2`, and `1 ^ (1/2) + (1/4) ^ (1/2) = 3/2` stops the loop. -/
theorem reprocess_example_done :
    (reprocessState realT (1/100 : ℝ) (3/2) 2 [1, 1/4]).done = true
    ∧ (reprocessState realT (1/100 : ℝ) (3/2) 2 [1, 1/4]).mid = 1 / 2 := by
  have e : List.range 2 = [0, 1] := by decide
  simp only [reprocessState, e, List.foldl_cons, List.foldl_nil]
  -- the probe at `mid = 1` is `5/4`: not within `tol`, below the target
  have s1 : reprocessStep realT (1/100 : ℝ) (3/2) [1, 1/4] Knn.bisectInit 0
      = { lo := 0, hi := some 1, mid := 1 / 2, done := false } := by
    rw [reprocessStep, if_neg (by decide), if_neg, if_pos]
    · simp only [Knn.bisectInit]; norm_num
    all_goals
      simp only [absV_eq_abs, List.map_cons, List.map_nil, sumL_cons, sumL_nil, realT,
        Knn.bisectInit, Real.rpow_one]
      norm_num
  -- the probe at `mid = 1/2` is `3/2`: the `break` branch
  rw [s1, reprocessStep, if_neg (by decide), if_pos]
  · exact ⟨rfl, rfl⟩
  simp only [absV_eq_abs, List.map_cons, List.map_nil, sumL_cons, sumL_nil, realT,
    Real.one_rpow, quarter_rpow_half]
  norm_num

-- so `reprocess_done_calibrated` applies, for every `n_iters ≥ 2`
example (m : Nat) : |(reprocessRow realT (1/100 : ℝ) (3/2) (2 + m) [1, 1/4]).sum - 3/2| < 1/100 := by
  rw [(reprocess_done_stable realT _ _ 2 m _ reprocess_example_done.1).2]
  exact (reprocess_done_calibrated _ _ 2 _ reprocess_example_done.1).2.2.1

end C18
end Umap
