/-
  C06 — a fixed random_state makes results bit-for-bit reproducible on any schedule.

  Partial by nature: real numba / pynndescent / BLAS thread interleavings cannot be exhibited by
  a model.  What is proved: (1) the `prange` loops on the seeded path are independent of the
  order in which iterations run (any permutation gives the same array); (2) a racy loop is *not*
  (why the parallel SGD kernel must not be selected); (3) the live selection logic, regenerated
  from /repo on every run, picks the sequential kernel and one job for every seeded model
  (including the falsy seed 0); (4) the random draws of the SGD are a pure function of the seed
  triple and the first coordinate (C07's `Rng`, no hidden entropy).
-/
import UmapModel.Par
import UmapModel.Rng
import Generated.Seeded
import Mathlib.Data.Rat.Defs

namespace Umap
namespace C06
open Par

/-- what a disjoint-write loop computes: cell `i` holds `body i` for every iteration `i`, the other
    cells are untouched. -/
theorem parFor_spec {β : Type} (body : Nat → β) (is : List Nat) (init : Nat → β) (c : Nat) :
    parFor body is init c = if c ∈ is then body c else init c := by
  unfold parFor
  induction is generalizing init with
  | nil => rfl
  | cons i is ih =>
    rw [List.foldl_cons, ih]
    by_cases h1 : c ∈ is
    · rw [if_pos h1, if_pos (List.mem_cons_of_mem _ h1)]
    · rw [if_neg h1]
      by_cases h2 : c = i
      · rw [if_pos h2, if_pos (h2 ▸ List.mem_cons_self), h2]
      · rw [if_neg h2, if_neg (by simp [h1, h2])]

/-- **schedule independence**: a disjoint-write loop gives the same result for every order of
    its iterations (the result only depends on which iterations run). -/
theorem prange_schedule_independent {β : Type} (body : Nat → β) (is js : List Nat)
    (h : is.Perm js) (init : Nat → β) : parFor body is init = parFor body js init := by
  funext c
  simp only [parFor_spec, h.mem_iff]

/-- in particular every schedule agrees with the sequential one. -/
theorem prange_eq_sequential {β : Type} (body : Nat → β) (n : Nat) (js : List Nat)
    (h : js.Perm (List.range n)) (init : Nat → β) :
    parFor body js init = parFor body (List.range n) init :=
  prange_schedule_independent body js (List.range n) h init

/-- a racy loop is schedule dependent: two edges moving one shared coordinate (`x ↦ x/2 + i`)
    give different results in the two orders — why the parallel SGD kernel is not reproducible. -/
theorem racy_kernel_schedule_dependent :
    racyFor (fun i (v : ℚ) => v / 2 + i) [0, 1] 8 ≠ racyFor (fun i (v : ℚ) => v / 2 + i) [1, 0] 8 := by
  decide +kernel

theorem seeded_selects_sequential (nJobs : Int) :
    kernelChoice true = .sequential ∧ effectiveJobs true nJobs = 1 := by
  unfold kernelChoice effectiveJobs
  by_cases h : nJobs = 1 <;> simp [h]

/-- **the live code** (table regenerated from /repo on every run): for every seeded row — seed 0
    included — one job is in force and neither `fit` nor `transform` hands the parallel flag to
    the layout optimiser; and the model's selection agrees with every row. -/
theorem live_seeded_table :
    ∀ e ∈ Generated.seededTable,
      (e.2.1 = true → e.2.2.2.1 = 1 ∧ e.2.2.2.2.1 = false ∧ e.2.2.2.2.2 = false)
      ∧ effectiveJobs e.2.1 e.2.2.1 = e.2.2.2.1
      ∧ (kernelChoice e.2.1 = .parallel ↔ e.2.2.2.2.1 = true) := by
  decide +kernel

/-- the table is not vacuous: it contains seeded rows with a non-unit job request. -/
example : ∃ e ∈ Generated.seededTable, e.2.1 = true ∧ e.2.2.1 ≠ 1 := by decide +kernel

/-- equal states give equal draws.  That the generator of utils.py has no input besides its state
    words is the modelling decision behind `Umap.Rng.tauRandInt` being a function; this statement
    does not add to it. -/
theorem tau_state_pure (s t : Rng.RState) (h : s = t) : Rng.tauRandInt s = Rng.tauRandInt t := by
  rw [h]

end C06
end Umap
