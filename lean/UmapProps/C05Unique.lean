/-
  C05 / C13 — `unique=True` on sparse input: the canonical form of a stored sparse row and the
  key `umap.utils.csr_unique` hashes.

  Model: `Umap.SparseRow` (`valueAt`, `cols`, `canon`, `key`, `dense`).  The theorems the
  properties name are stated over an arbitrary linear ordered field `K` and come last; the lemmas
  before them carry what they use: the column lists no value type at all, `valueAt` / `canon` a
  field (`Values`), `supp` / `key` / `inverse` also its order (`Ordered`).

  Every notion is characterised by the matrix row it denotes, `valueAt row j` (the sum of the
  values stored at column `j`).  The lil form `canon` and the `key` keep `valueAt` and have
  strictly ascending columns, so two stored rows have the same key iff they have the same
  `valueAt`, iff (columns `< n`) the same dense row.  `inverse` — `index[inverse[i]]` of
  `np.unique` on the keys — is the first row with the same key, and partitions the rows by
  sample.  The key hashed before `fix: d24727b` kept the stored zeros and tells two stored forms
  of one sample apart (`pinned_key_counterexample`).
-/
import UmapModel.SparseRow
import UmapModel.Pipeline
import UmapProofs.Basic
import Mathlib.Data.List.Sort

namespace Umap
namespace C05
open SparseRow

theorem mem_insertCol (j x : Nat) (l : List Nat) : x ∈ insertCol j l ↔ x = j ∨ x ∈ l := by
  induction l with
  | nil => rw [insertCol, List.mem_singleton, List.mem_nil_iff, or_false]
  | cons c cs ih =>
    rw [insertCol]
    split_ifs with h1 h2
    · exact List.mem_cons
    · subst h2; exact ⟨Or.inr, fun h => h.elim (fun e => e ▸ List.mem_cons_self) id⟩
    · rw [List.mem_cons, ih, List.mem_cons]; exact or_left_comm

theorem insertCol_sorted (j : Nat) (l : List Nat) (h : l.Pairwise (· < ·)) :
    (insertCol j l).Pairwise (· < ·) := by
  induction l with
  | nil => exact List.pairwise_singleton _ _
  | cons c cs ih =>
    rw [List.pairwise_cons] at h
    rw [insertCol]
    split_ifs with h1 h2
    · exact List.pairwise_cons.2
        ⟨List.forall_mem_cons.2 ⟨h1, fun a ha => h1.trans (h.1 a ha)⟩, List.pairwise_cons.2 h⟩
    · exact List.pairwise_cons.2 h
    · refine List.pairwise_cons.2 ⟨fun a ha => ?_, ih h.2⟩
      rcases (mem_insertCol j a cs).1 ha with rfl | ha
      · exact lt_of_le_of_ne (Nat.le_of_not_lt h1) (Ne.symm h2)
      · exact h.1 a ha

theorem cols_cons {α : Type} (p : Nat × α) (row : Row α) :
    cols (p :: row) = insertCol p.1 (cols row) := rfl

theorem mem_cols {α : Type} (row : Row α) (j : Nat) : j ∈ cols row ↔ j ∈ row.map (·.1) := by
  induction row with
  | nil => exact Iff.rfl
  | cons p row ih => rw [cols_cons, mem_insertCol, ih, List.map_cons, List.mem_cons]

theorem cols_sorted {α : Type} (row : Row α) : (cols row).Pairwise (· < ·) := by
  induction row with
  | nil => simp [cols]
  | cons p row ih => rw [cols_cons]; exact insertCol_sorted _ _ ih

theorem cols_perm_invariant {α : Type} {row row' : Row α} (h : row.Perm row') :
    cols row = cols row' := by
  refine (cols_sorted row).eq_of_mem_iff (cols_sorted row') (fun j => ?_)
  rw [mem_cols, mem_cols]
  exact (h.map _).mem_iff

section Values
variable {K : Type} [Field K]

@[simp] theorem valueAt_nil (j : Nat) : valueAt ([] : Row K) j = 0 := by
  simp [valueAt]

theorem valueAt_cons (p : Nat × K) (row : Row K) (j : Nat) :
    valueAt (p :: row) j = (if p.1 = j then p.2 else 0) + valueAt row j :=
  (sumL_filter_map_cons _ _ p row).trans
    (congrArg (· + valueAt row j) (if_congr beq_iff_eq rfl rfl))

theorem valueAt_eq_zero (row : Row K) (j : Nat) (h : ∀ p ∈ row, p.1 ≠ j) : valueAt row j = 0 :=
  sumL_filter_map_eq_zero _ _ row fun p hp => beq_false_of_ne (h p hp)

theorem valueAt_eq_zero_of_not_mem_cols (row : Row K) (j : Nat) (h : j ∉ cols row) :
    valueAt row j = 0 :=
  valueAt_eq_zero row j (fun _ hp hpj => h ((mem_cols row j).2 (hpj ▸ List.mem_map_of_mem hp)))

theorem valueAt_map_nodup (cs : List Nat) (hcs : cs.Nodup) (f : Nat → K) (j : Nat) :
    valueAt (cs.map (fun c => (c, f c))) j = if j ∈ cs then f j else 0 := by
  induction cs with
  | nil => simp
  | cons c cs ih =>
    rw [List.nodup_cons] at hcs
    rw [List.map_cons, valueAt_cons, ih hcs.2]
    by_cases h : c = j
    · subst h; simp [hcs.1]
    · have h' : ¬ j = c := fun e => h e.symm
      simp [h, h']

/-- a row rebuilt from its `valueAt` on a duplicate-free column list that covers its non-zero
    columns denotes the same matrix row (`canon`: all stored columns; `key`: the non-zero ones). -/
theorem valueAt_map_valueAt (row : Row K) (cs : List Nat) (hcs : cs.Nodup)
    (h : ∀ j, j ∉ cs → valueAt row j = 0) (j : Nat) :
    valueAt (cs.map (fun c => (c, valueAt row c))) j = valueAt row j := by
  rw [valueAt_map_nodup cs hcs]
  split_ifs with hj
  · rfl
  · exact (h j hj).symm

theorem canon_cols (row : Row K) : (canon row).map (·.1) = cols row := by
  unfold canon
  rw [List.map_map]
  exact List.map_id' _

theorem canon_valueAt (row : Row K) (j : Nat) : valueAt (canon row) j = valueAt row j :=
  valueAt_map_valueAt row _ ((cols_sorted row).imp Nat.ne_of_lt)
    (valueAt_eq_zero_of_not_mem_cols row) j

theorem mem_canon (row : Row K) (p : Nat × K) :
    p ∈ canon row ↔ p.1 ∈ cols row ∧ p.2 = valueAt row p.1 := by
  unfold canon
  rw [List.mem_map]
  constructor
  · rintro ⟨j, hj, rfl⟩; exact ⟨hj, rfl⟩
  · rintro ⟨h1, h2⟩; exact ⟨p.1, h1, by rw [← h2]⟩

theorem canon_congr {row row' : Row K} (hc : cols row = cols row')
    (hv : ∀ j, valueAt row j = valueAt row' j) : canon row = canon row' := by
  unfold canon
  rw [hc]
  exact List.map_congr_left (fun j _ => by rw [hv j])

theorem cols_canon (row : Row K) : cols (canon row) = cols row :=
  (cols_sorted _).eq_of_mem_iff (cols_sorted _) (fun j => by rw [mem_cols, canon_cols])

theorem dense_eq_iff (n : Nat) (row row' : Row K) :
    dense n row = dense n row' ↔ ∀ j < n, valueAt row j = valueAt row' j := by
  unfold dense
  rw [List.map_inj_left]
  simp only [List.mem_range]

end Values

section Ordered
variable {K : Type} [Field K] [LinearOrder K]

/-- the columns that carry a non-zero value, ascending. -/
def supp (row : Row K) : List Nat := (cols row).filter (fun j => !eqV (valueAt row j) 0)

theorem mem_supp (row : Row K) (j : Nat) : j ∈ supp row ↔ valueAt row j ≠ 0 := by
  unfold supp
  rw [List.mem_filter]
  simp only [Bool.not_eq_true', ← Bool.not_eq_true, eqV_iff]
  exact ⟨fun h => h.2, fun h =>
    ⟨Classical.by_contradiction fun hc => h (valueAt_eq_zero_of_not_mem_cols row j hc), h⟩⟩

theorem supp_sorted (row : Row K) : (supp row).Pairwise (· < ·) :=
  (cols_sorted row).sublist List.filter_sublist

theorem key_eq_map (row : Row K) : key row = (supp row).map (fun j => (j, valueAt row j)) := by
  unfold key canon supp
  rw [List.filter_map]
  rfl

theorem key_valueAt (row : Row K) (j : Nat) : valueAt (key row) j = valueAt row j := by
  rw [key_eq_map]
  exact valueAt_map_valueAt row _ ((supp_sorted row).imp Nat.ne_of_lt)
    (fun j hj => not_not.1 (mt (mem_supp row j).2 hj)) j

/-- the key is a function of the matrix row only. -/
theorem key_eq_iff_valueAt_eq (row row' : Row K) :
    key row = key row' ↔ ∀ j, valueAt row j = valueAt row' j := by
  constructor
  · intro h j
    rw [← key_valueAt row j, h, key_valueAt]
  · intro h
    have hs : supp row = supp row' := by
      refine (supp_sorted row).eq_of_mem_iff (supp_sorted row') (fun j => ?_)
      rw [mem_supp, mem_supp, h j]
    rw [key_eq_map, key_eq_map, hs]
    exact List.map_congr_left (fun j _ => by rw [h j])

/-- one direction needs no bound on the columns: same key ⇒ same dense row of any width. -/
theorem dense_eq_of_key_eq (n : Nat) {row row' : Row K} (h : key row = key row') :
    dense n row = dense n row' :=
  (dense_eq_iff n row row').2 (fun j _ => (key_eq_iff_valueAt_eq row row').1 h j)

/-- index of the first row whose key is `k` (`rows.length` when there is none). -/
def firstWith (rows : List (Row K)) (k : Row K) : Nat :=
  rows.findIdx (fun r => decide (key r = k))

/-- index of the first row with the same key as row `i` (`index[inverse[i]]` in the notation of
    `np.unique(keys, return_index=True, return_inverse=True)`: the row of the matrix whose
    embedding is reused for row `i`). -/
def inverse (rows : List (Row K)) (i : Nat) : Nat :=
  firstWith rows (key (rows.getD i []))

theorem inverse_eq (rows : List (Row K)) (i : Nat) (hi : i < rows.length) :
    inverse rows i = firstWith rows (key rows[i]) := by
  rw [List.getElem_eq_getD []]; rfl

theorem firstWith_first (rows : List (Row K)) (k : Row K) (j : Nat) (hl : j < rows.length)
    (hj : j < firstWith rows k) : key rows[j] ≠ k :=
  of_decide_eq_false (List.not_of_lt_findIdx hj)

theorem firstWith_le (rows : List (Row K)) (k : Row K) (i : Nat) (hi : i < rows.length)
    (h : key rows[i] = k) : firstWith rows k ≤ i :=
  Nat.le_of_not_lt fun hc => firstWith_first rows k i hi hc h

/-- (stated for any index equal to `firstWith rows k`, so that it applies to `inverse rows i`
    without rewriting under the bound proof of `rows[·]`.) -/
theorem key_firstWith (rows : List (Row K)) (k : Row K) (m : Nat) (hm : m < rows.length)
    (e : m = firstWith rows k) : key rows[m] = k := by
  subst e
  exact of_decide_eq_true (@List.findIdx_getElem _ (fun r => decide (key r = k)) rows hm)

theorem inverse_le (rows : List (Row K)) (i : Nat) (hi : i < rows.length) :
    inverse rows i ≤ i := by
  rw [inverse_eq rows i hi]
  exact firstWith_le rows _ i hi rfl

theorem inverse_congr (rows : List (Row K)) (i j : Nat) (hi : i < rows.length)
    (hj : j < rows.length) (h : key rows[i] = key rows[j]) : inverse rows i = inverse rows j := by
  rw [inverse_eq rows i hi, inverse_eq rows j hj, h]

end Ordered

section
variable {K : Type} [Field K] [LinearOrder K] [IsStrictOrderedRing K]

set_option linter.unusedSectionVars false -- instance binders of fixed statements

theorem valueAt_perm {row row' : Row K} (h : row.Perm row') (j : Nat) :
    valueAt row j = valueAt row' j :=
  sumL_map_perm _ (h.filter _)

theorem canon_sorted (row : Row K) : ((canon row).map (·.1)).Pairwise (· < ·) := by
  rw [canon_cols]; exact cols_sorted row

theorem canon_perm_invariant {row row' : Row K} (h : row.Perm row') : canon row = canon row' :=
  canon_congr (cols_perm_invariant h) (valueAt_perm h)

theorem canon_idem (row : Row K) : canon (canon row) = canon row :=
  canon_congr (cols_canon row) (canon_valueAt row)

theorem key_sorted (row : Row K) : ((key row).map (·.1)).Pairwise (· < ·) :=
  (canon_sorted row).sublist (List.filter_sublist.map _)

theorem mem_key (row : Row K) (p : Nat × K) :
    p ∈ key row ↔ p.2 = valueAt row p.1 ∧ p.2 ≠ 0 := by
  rw [key_eq_map, List.mem_map]
  constructor
  · rintro ⟨j, hj, rfl⟩; exact ⟨rfl, (mem_supp row j).1 hj⟩
  · rintro ⟨h1, h2⟩
    exact ⟨p.1, (mem_supp row p.1).2 (h1 ▸ h2), by rw [← h1]⟩

theorem key_nonzero (row : Row K) : ∀ p ∈ key row, p.2 ≠ 0 :=
  fun p hp => ((mem_key row p).1 hp).2

theorem key_perm_invariant {row row' : Row K} (h : row.Perm row') : key row = key row' :=
  (key_eq_iff_valueAt_eq row row').2 (valueAt_perm h)

theorem key_canon (row : Row K) : key (canon row) = key row :=
  (key_eq_iff_valueAt_eq _ _).2 (canon_valueAt row)

theorem key_idem (row : Row K) : key (key row) = key row :=
  (key_eq_iff_valueAt_eq _ _).2 (key_valueAt row)

theorem dense_length (n : Nat) (row : Row K) : (dense n row).length = n := by
  simp [dense]

theorem dense_getElem (n : Nat) (row : Row K) (j : Nat) (hj : j < n) :
    (dense n row)[j]'(by rw [dense_length]; exact hj) = valueAt row j := by
  simp [dense]

/-- two stored rows (columns `< n`) get the same key exactly when they
    are the same sample — whatever the storage order, duplicate entries or explicit zeros. -/
theorem key_eq_iff_dense_eq (n : Nat) (row row' : Row K)
    (h : ∀ p ∈ row, p.1 < n) (h' : ∀ p ∈ row', p.1 < n) :
    key row = key row' ↔ dense n row = dense n row' := by
  refine ⟨dense_eq_of_key_eq n, fun hd => (key_eq_iff_valueAt_eq row row').2 (fun j => ?_)⟩
  by_cases hj : j < n
  · exact (dense_eq_iff n row row').1 hd j hj
  · rw [valueAt_eq_zero row j (fun p hp e => hj (e ▸ h p hp)),
      valueAt_eq_zero row' j (fun p hp e => hj (e ▸ h' p hp))]

theorem inverse_lt (rows : List (Row K)) (i : Nat) (hi : i < rows.length) :
    inverse rows i < rows.length :=
  lt_of_le_of_lt (inverse_le rows i hi) hi

theorem key_inverse (rows : List (Row K)) (i : Nat) (hi : i < rows.length) :
    key (rows[inverse rows i]'(inverse_lt rows i hi)) = key rows[i] :=
  key_firstWith rows _ _ (inverse_lt rows i hi) (inverse_eq rows i hi)

theorem inverse_first (rows : List (Row K)) (i k : Nat) (hi : i < rows.length)
    (hk : k < inverse rows i) :
    key (rows[k]'(lt_trans hk (inverse_lt rows i hi))) ≠ key rows[i] := by
  rw [inverse_eq rows i hi] at hk
  exact firstWith_first rows _ k _ hk

theorem inverse_eq_iff_key_eq (rows : List (Row K)) (i j : Nat) (hi : i < rows.length)
    (hj : j < rows.length) : inverse rows i = inverse rows j ↔ key rows[i] = key rows[j] := by
  refine ⟨fun h => ?_, inverse_congr rows i j hi hj⟩
  rw [← key_inverse rows i hi, ← key_inverse rows j hj]
  simp only [h]

theorem inverse_idem (rows : List (Row K)) (i : Nat) (hi : i < rows.length) :
    inverse rows (inverse rows i) = inverse rows i :=
  inverse_congr rows _ _ (inverse_lt rows i hi) hi (key_inverse rows i hi)

theorem inverse_eq_iff_dense_eq (n : Nat) (rows : List (Row K))
    (hn : ∀ r ∈ rows, ∀ p ∈ r, p.1 < n) (i j : Nat) (hi : i < rows.length)
    (hj : j < rows.length) :
    inverse rows i = inverse rows j ↔ dense n rows[i] = dense n rows[j] := by
  rw [inverse_eq_iff_key_eq rows i j hi hj]
  exact key_eq_iff_dense_eq n _ _ (hn _ (List.getElem_mem hi)) (hn _ (List.getElem_mem hj))

/-- for every row `i` the representative `inverse rows i` is a row of the
    matrix, not after `i`, the same sample as row `i`, and its own representative. -/
theorem unique_partition (n : Nat) (rows : List (Row K)) (i : Nat) (hi : i < rows.length) :
    ∃ h : inverse rows i < rows.length,
      inverse rows i ≤ i
      ∧ dense n (rows[inverse rows i]'h) = dense n rows[i]
      ∧ inverse rows (inverse rows i) = inverse rows i :=
  ⟨inverse_lt rows i hi, inverse_le rows i hi, dense_eq_of_key_eq n (key_inverse rows i hi),
    inverse_idem rows i hi⟩

/-- mapping the embedding of the rows back through `inverse`: `out[i] = emb (inverse i)`.
    Identical samples (columns `< n`) get identical output rows. -/
theorem unique_rows_sparse {γ : Type} (n : Nat) (rows : List (Row K)) (emb : Nat → γ)
    (hn : ∀ r ∈ rows, ∀ p ∈ r, p.1 < n) (i j : Nat) (hi : i < rows.length)
    (hj : j < rows.length) (hd : dense n rows[i] = dense n rows[j]) :
    emb (inverse rows i) = emb (inverse rows j) := by
  rw [(inverse_eq_iff_dense_eq n rows hn i j hi hj).2 hd]

/-- … and when the embedding separates the distinct representatives, only identical samples
    do. -/
theorem unique_rows_sparse_iff {γ : Type} (n : Nat) (rows : List (Row K)) (emb : Nat → γ)
    (hn : ∀ r ∈ rows, ∀ p ∈ r, p.1 < n)
    (hinj : ∀ a b, a < rows.length → b < rows.length → inverse rows a = a → inverse rows b = b →
      emb a = emb b → a = b)
    (i j : Nat) (hi : i < rows.length) (hj : j < rows.length) :
    emb (inverse rows i) = emb (inverse rows j) ↔ dense n rows[i] = dense n rows[j] := by
  refine ⟨fun h => ?_, unique_rows_sparse n rows emb hn i j hi hj⟩
  exact (inverse_eq_iff_dense_eq n rows hn i j hi hj).1
    (hinj _ _ (inverse_lt rows i hi) (inverse_lt rows j hj) (inverse_idem rows i hi)
      (inverse_idem rows j hj) h)

/-- the same statement for the `unique=True` round trip of `Umap.Pipeline` run on the keys
    (`distinctRows` / `inverseIndex` / `expand`, see `C05.unique_rows`): identical samples —
    however they are stored — receive the identical embedding row. -/
theorem unique_rows_pipeline {γ : Type} [Inhabited γ] (n : Nat) (rows : List (Row K))
    (emb : List γ) (hn : ∀ r ∈ rows, ∀ p ∈ r, p.1 < n) (i j : Nat) (hi : i < rows.length)
    (hj : j < rows.length) (hd : dense n rows[i] = dense n rows[j]) :
    (Pipeline.expand emb (Pipeline.inverseIndex (rows.map key)))[i]'(by
        simp [Pipeline.expand, Pipeline.inverseIndex]; exact hi)
      = (Pipeline.expand emb (Pipeline.inverseIndex (rows.map key)))[j]'(by
        simp [Pipeline.expand, Pipeline.inverseIndex]; exact hj) := by
  have hk : key rows[i] = key rows[j] :=
    (key_eq_iff_dense_eq n _ _ (hn _ (List.getElem_mem hi)) (hn _ (List.getElem_mem hj))).2 hd
  simp only [Pipeline.expand, Pipeline.inverseIndex, List.getElem_map, hk]

/-- what `csr_unique` hashed before `fix: d24727b`: the lil form *with* its stored zeros. -/
def keyWithZeros (row : Row K) : Row K := canon row

/-- the old key never merges different samples; it is only too fine
    (`pinned_key_counterexample`). -/
theorem keyWithZeros_eq_imp_key_eq (row row' : Row K)
    (h : keyWithZeros row = keyWithZeros row') : key row = key row' := by
  unfold keyWithZeros at h
  unfold key
  rw [h]

end

/-- a sample stored with an explicit zero, and the same sample without it. -/
def pinA : Row ℚ := [(0, 1), (1, 0)]
def pinB : Row ℚ := [(0, 1)]

/-- the two stored rows are the same sample (equal dense rows) but
    the old key tells them apart — so identical samples reached the neighbour search.  The
    repaired key identifies them. -/
theorem pinned_key_counterexample :
    dense 2 pinA = dense 2 pinB ∧ keyWithZeros pinA ≠ keyWithZeros pinB
      ∧ key pinA = key pinB := by
  decide +kernel

/-! ### non-vacuity: concrete stored rows over ℚ -/

/-- the same sample `(1, 0, 5)` stored three ways: canonical; shuffled with a duplicate column
    and an explicit zero; with a cancelling pair.  And a different sample. -/
def exA : Row ℚ := [(0, 1), (2, 5)]
def exB : Row ℚ := [(2, 2), (1, 0), (0, 1), (2, 3)]
def exC : Row ℚ := [(1, 4), (2, 5), (1, -4), (0, 1)]
def exD : Row ℚ := [(0, 1), (2, 4)]

example : (∀ p ∈ exA, p.1 < 3) ∧ (∀ p ∈ exB, p.1 < 3) ∧ (∀ p ∈ exC, p.1 < 3)
    ∧ (∀ p ∈ exD, p.1 < 3) := by decide +kernel
example : canon exB = [(0, 1), (1, 0), (2, 5)] := by decide +kernel
example : canon exC = [(0, 1), (1, 0), (2, 5)] := by decide +kernel
example : key exB = [(0, 1), (2, 5)] ∧ key exA = key exB ∧ key exB = key exC := by
  decide +kernel
example : dense 3 exA = [1, 0, 5] ∧ dense 3 exB = dense 3 exA ∧ dense 3 exC = dense 3 exA := by
  decide +kernel
/-- both sides of `key_eq_iff_dense_eq` can be false. -/
example : key exA ≠ key exD ∧ dense 3 exA ≠ dense 3 exD := by decide +kernel
/-- `canon_perm_invariant` on a genuine permutation. -/
example : exB.Perm [(0, 1), (2, 3), (2, 2), (1, 0)] := by decide +kernel
example : canon exB = canon [(0, 1), (2, 3), (2, 2), (1, 0)] :=
  canon_perm_invariant (by decide +kernel)
/-- the column bound in `key_eq_iff_dense_eq` cannot be dropped: a column beyond the width is
    invisible in `dense`. -/
example : dense 2 exA = dense 2 [(0, 1)] ∧ key exA ≠ key [((0 : Nat), (1 : ℚ))] := by
  decide +kernel
/-- the partition of a four-row matrix: rows 0, 1, 3 are the same sample, row 2 is not. -/
example : (List.range 4).map (inverse [exA, exB, exD, exC]) = [0, 0, 2, 0] := by decide +kernel
example : ∀ r ∈ [exA, exB, exD, exC], ∀ p ∈ r, p.1 < 3 := by decide +kernel

end C05
end Umap
