/-
  C13SrcB — the binary / count-based sparse metrics, `sparse_ll_dirichlet` and `sparse_correlation`
  generated from the source text of umap/sparse.py (`Generated/SparseSrc.lean`, namespace
  `Umap.SrcSparse`) are EQUAL to the hand-written model `Umap.Sparse` the C13 property theorems are
  about, on canonical CSR rows (`Canon ind data`), relative to `H : SparseSrcSpec.CoreSpec`
  (the translated merge helpers compute what the model's `merge` computes; proved in C13SrcCore).

  Generality.
  * `sparseLlDirichlet_src(_of_length)`: ANY scalar type `α` (the unbundled instance list, covers `Float`),
    no `CoreSpec`, no sortedness — only `len(ind) = len(data)`; the source's own while-loop merge is
    tied to the model's `merge` by `SparseSrcLemmasS1.whileN_merge_inner`.
  * `sparseCorrelation_src_of_casts`: ANY scalar type, relative to `CoreSpec` and to the four facts about
    `sqrt` and the casts that need a field; `sparseCorrelation_src_of_le` supplies them over `K`.
  * every other kernel: ordered field `K` (the source does Python-int arithmetic, translated to `Int`
    and cast; the model uses naturals — the casts `Nat → Int → K` need the ring laws).

  Extra hypotheses (all named, all preconditions of the library: column indices `< n_features`).
  * `sparseKulsinski_src`, `sparseRussellrao_src`: `h_nfeatures : ∀ k ∈ ind1, k < n`.
    The `_of_le` forms state the exact arithmetic condition.  WITHOUT it the equality is FALSE:
    the source's `num_not_equal - num_true_true + n_features` / `n_features - num_true_true` are
    Python ints that go negative, the model's `Nat` subtraction truncates at 0.
      kulsinski:  ind1 = [0,1,2,3], ind2 = [0,1,2], n = 1 :  source (1-3+1)/(1+1) = -1/2, model 0/2 = 0.
      russellrao: ind1 = [0,1,2], ind2 = [0,1,3], n = 1 :    source (1-2)/1 = -1,        model 0/1 = 0.
  * `sparseCorrelation_src`: `h_nfeatures1/2` (same reason: `n - len(ind)`, `n - |union|` as ints vs
    truncated naturals) and `h_sqrt : ∀ a ≥ 0, T.sqrt a * T.sqrt a = a` — the source computes
    `norm(shifted)**2` (the square of a square root), the model the sum of squares itself; equal for
    the real square root, not bit-identical in floating point.
-/
import UmapModel.Sparse
import Generated.SparseSrc
import UmapProofs.SparseSrcLemmasS1
import UmapProps.C12SrcC
import UmapProps.C13
import UmapProps.C13SrcA

namespace Umap

namespace C13SrcB
open Sparse SparseSrcSpec SrcLemmas

section casts
variable {K : Type} [Field K]

/-- a Python-int difference that does not go negative is the model's truncating `Nat` difference -/
theorem cast_int_sub (n k : Nat) (h : k ≤ n) :
    ((((n : Nat) : Int) - ((k : Nat) : Int) : Int) : K) = ((n - k : Nat) : K) := by
  rw [← Nat.cast_sub h, Int.cast_natCast]

/-- … also when a further natural is added before the subtraction (`sparse_kulsinski`) -/
theorem cast_int_sub_add (a t n : Nat) (h : t ≤ a + n) :
    ((((a : Nat) : Int) - ((t : Nat) : Int) + ((n : Nat) : Int) : Int) : K) = ((a + n - t : Nat) : K) := by
  rw [sub_add_eq_add_sub, ← Nat.cast_add, ← Nat.cast_sub h, Int.cast_natCast]

end casts

/-- inclusion–exclusion without subtraction in the hypotheses: `|A ∪ B| = |A ∩ B| + (|A \ B| + |B \ A|)` -/
theorem union_eq_inter_add {i u a b : Nat} (h : i + u = a + b) (ha : i ≤ a) (hb : i ≤ b) :
    u = i + ((a - i) + (b - i)) := by
  obtain ⟨x, rfl⟩ := Nat.exists_eq_add_of_le ha
  obtain ⟨y, rfl⟩ := Nat.exists_eq_add_of_le hb
  rw [Nat.add_sub_cancel_left, Nat.add_sub_cancel_left]
  rw [Nat.add_assoc] at h
  exact (Nat.add_left_cancel h).trans (Nat.add_left_comm _ _ _)

/-- the guard `ind1.shape[0] == ind2.shape[0] and np.all(ind1 == ind2)` of `sparse_russellrao` decides `ind1 = ind2` -/
theorem zipWith_beq_all (l1 l2 : List Nat) :
    ((l1.length == l2.length) && (List.zipWith (fun a b => a == b) l1 l2).all id) = decide (l1 = l2) := by
  induction l1 generalizing l2 with
  | nil => cases l2 <;> rfl
  | cons a l1 ih =>
    cases l2 with
    | nil => rfl
    | cons b l2 =>
      have hlen : ((a :: l1).length == (b :: l2).length) = (l1.length == l2.length) := by
        simp only [List.length_cons, Nat.add_right_cancel_iff, beq_eq_decide]
      rw [List.zipWith_cons_cons, List.all_cons, id, Bool.and_left_comm, hlen, ih l2]
      simp only [List.cons.injEq, Bool.decide_and, beq_eq_decide]

theorem interSize_le_of_bound {α : Type} [OfNat α 1] {ind1 ind2 : List Nat} {data1 data2 : List α}
    (n : Nat) (hc1 : Canon ind1 data1) (h_nfeatures : ∀ k ∈ ind1, k < n) :
    interSize (pack ind1 data1) (pack ind2 data2) ≤ n :=
  (C13.interSize_le_left _ _).trans (row_pack hc1 h_nfeatures).length_le

section counts
variable {K : Type} [Field K] [LinearOrder K] [IsStrictOrderedRing K]

/-- The two index-array sizes the source computes, in the model's counts: `arr_intersect` has `tt` entries and
    `arr_union` has `tt + neq`.  After rewriting with these, the source's Python int
    `num_non_zero - num_true_true` is `(tt + neq) - tt` in `ℤ`, and each count metric differs from the model only
    in where the casts stand. -/
theorem counts_src (H : CoreSpec K) {ind1 ind2 : List Nat} {data1 data2 : List K}
    (hc1 : Canon ind1 data1) (hc2 : Canon ind2 data2) (n : Nat) :
    (SrcSparse.arrIntersect ind1 ind2).length = (sCounts n (pack ind1 data1) (pack ind2 data2)).tt ∧
    (SrcSparse.arrUnion ind1 ind2).length
      = (sCounts n (pack ind1 data1) (pack ind2 data2)).tt + (sCounts n (pack ind1 data1) (pack ind2 data2)).neq :=
  ⟨H.interLen _ _ _ _ hc1 hc2, (H.unionLen _ _ _ _ hc1 hc2).trans
    (union_eq_inter_add (C13.interSize_add_unionSize _ _) (C13.interSize_le_left _ _)
      (C13.interSize_le_right _ _))⟩

theorem sparseJaccard_src (H : CoreSpec K) (ind1 ind2 : List Nat) (data1 data2 : List K)
    (hc1 : Canon ind1 data1) (hc2 : Canon ind2 data2) :
    SrcSparse.sparseJaccard ind1 data1 ind2 data2
      = Sparse.sJaccard (pack ind1 data1) (pack ind2 data2) := by
  obtain ⟨hI, hU⟩ := counts_src H hc1 hc2 0
  unfold SrcSparse.sparseJaccard Sparse.sJaccard Metrics.jaccardC Metrics.rat
  simp only [hI, hU, Nat.cast_add, add_sub_cancel_left, Int.cast_add, Int.cast_natCast, Metrics.Counts.neq,
    Nat.add_assoc, Nat.add_sub_cancel_left, beq_iff_eq]

theorem sparseMatching_src (H : CoreSpec K) (ind1 ind2 : List Nat) (data1 data2 : List K) (n : Nat)
    (hc1 : Canon ind1 data1) (hc2 : Canon ind2 data2) :
    SrcSparse.sparseMatching ind1 data1 ind2 data2 n
      = Sparse.sMatching n (pack ind1 data1) (pack ind2 data2) := by
  obtain ⟨hI, hU⟩ := counts_src H hc1 hc2 n
  unfold SrcSparse.sparseMatching Sparse.sMatching Metrics.matchingC Metrics.rat
  simp only [hI, hU, Nat.cast_add, add_sub_cancel_left, Int.cast_natCast]
  rfl

theorem sparseDice_src (H : CoreSpec K) (ind1 ind2 : List Nat) (data1 data2 : List K)
    (hc1 : Canon ind1 data1) (hc2 : Canon ind2 data2) :
    SrcSparse.sparseDice ind1 data1 ind2 data2
      = Sparse.sDice (pack ind1 data1) (pack ind2 data2) := by
  obtain ⟨hI, hU⟩ := counts_src H hc1 hc2 0
  unfold SrcSparse.sparseDice Sparse.sDice Metrics.diceC Metrics.rat
  simp only [hI, hU, Nat.cast_add, add_sub_cancel_left, Int.cast_natCast, beq_iff_eq, Nat.cast_inj,
    Nat.cast_mul]

theorem sparseRogersTanimoto_src (H : CoreSpec K) (ind1 ind2 : List Nat) (data1 data2 : List K)
    (n : Nat) (hc1 : Canon ind1 data1) (hc2 : Canon ind2 data2) :
    SrcSparse.sparseRogersTanimoto ind1 data1 ind2 data2 n
      = Sparse.sRogersTanimoto n (pack ind1 data1) (pack ind2 data2) := by
  obtain ⟨hI, hU⟩ := counts_src H hc1 hc2 n
  unfold SrcSparse.sparseRogersTanimoto Sparse.sRogersTanimoto Metrics.rogersTanimotoC Metrics.rat
  simp only [hI, hU, Nat.cast_add, add_sub_cancel_left, Int.cast_natCast, Int.cast_add, Nat.cast_mul]
  rfl

theorem sparseSokalMichener_src (H : CoreSpec K) (ind1 ind2 : List Nat) (data1 data2 : List K)
    (n : Nat) (hc1 : Canon ind1 data1) (hc2 : Canon ind2 data2) :
    SrcSparse.sparseSokalMichener ind1 data1 ind2 data2 n
      = Sparse.sSokalMichener n (pack ind1 data1) (pack ind2 data2) :=
  -- `sparse_sokal_michener` and `sparse_rogers_tanimoto` are the same function, in the source and in the model
  sparseRogersTanimoto_src H ind1 ind2 data1 data2 n hc1 hc2

theorem sparseSokalSneath_src (H : CoreSpec K) (ind1 ind2 : List Nat) (data1 data2 : List K)
    (hc1 : Canon ind1 data1) (hc2 : Canon ind2 data2) :
    SrcSparse.sparseSokalSneath ind1 data1 ind2 data2
      = Sparse.sSokalSneath (pack ind1 data1) (pack ind2 data2) := by
  obtain ⟨hI, hU⟩ := counts_src H hc1 hc2 0
  unfold SrcSparse.sparseSokalSneath Sparse.sSokalSneath Metrics.sokalSneathC Metrics.two
  simp only [hI, hU, Nat.cast_add, add_sub_cancel_left, Int.cast_natCast, beq_iff_eq, Nat.cast_inj]

/-- `sparse_kulsinski`, general form.  The source computes `num_not_equal - num_true_true + n_features`
    in Python ints (it may be negative); the model uses the truncating `Nat` expression
    `neq + n - tt`.  They agree iff that integer is non-negative, i.e. `2·|x ∩ y| ≤ |x ∪ y| + n`
    (true whenever the indices are `< n_features`, see `sparseKulsinski_src`). -/
theorem sparseKulsinski_src_of_le (H : CoreSpec K) (ind1 ind2 : List Nat) (data1 data2 : List K)
    (n : Nat) (hc1 : Canon ind1 data1) (hc2 : Canon ind2 data2)
    (h_nfeatures : 2 * interSize (pack ind1 data1) (pack ind2 data2)
        ≤ unionSize (pack ind1 data1) (pack ind2 data2) + n) :
    SrcSparse.sparseKulsinski ind1 data1 ind2 data2 n
      = Sparse.sKulsinski n (pack ind1 data1) (pack ind2 data2) := by
  obtain ⟨hI, hU⟩ := counts_src H hc1 hc2 n
  rw [← H.interLen _ _ _ _ hc1 hc2, ← H.unionLen _ _ _ _ hc1 hc2, hI, hU, Nat.two_mul, Nat.add_assoc]
    at h_nfeatures
  unfold SrcSparse.sparseKulsinski Sparse.sKulsinski Metrics.kulsinskiC Metrics.rat
  simp only [hI, hU, Nat.cast_add, add_sub_cancel_left, beq_iff_eq, Nat.cast_inj]
  rw [cast_int_sub_add _ _ n (Nat.le_of_add_le_add_left h_nfeatures)]
  simp only [Int.cast_add, Int.cast_natCast]
  rfl

/-- `sparse_kulsinski` under the library's precondition that the indices of (one of) the rows
    are `< n_features`. -/
theorem sparseKulsinski_src (H : CoreSpec K) (ind1 ind2 : List Nat) (data1 data2 : List K)
    (n : Nat) (hc1 : Canon ind1 data1) (hc2 : Canon ind2 data2)
    (h_nfeatures : ∀ k ∈ ind1, k < n) :
    SrcSparse.sparseKulsinski ind1 data1 ind2 data2 n
      = Sparse.sKulsinski n (pack ind1 data1) (pack ind2 data2) := by
  apply sparseKulsinski_src_of_le H _ _ _ _ n hc1 hc2
  rw [Nat.two_mul]
  -- `|x ∩ y| ≤ |x ∪ y|`: the intersection merge emits at the common indices only
  exact Nat.add_le_add
    (C13.length_merge_le_unionSize _ _ _ _ _)
    (interSize_le_of_bound n hc1 h_nfeatures)

/-- `sparse_russellrao`, general form: the source's `n_features - num_true_true` is a Python int, the
    model's is a truncating `Nat`; they agree when `|x ∩ y| ≤ n_features`. -/
theorem sparseRussellrao_src_of_le (H : CoreSpec K) (ind1 ind2 : List Nat) (data1 data2 : List K)
    (n : Nat) (hc1 : Canon ind1 data1) (hc2 : Canon ind2 data2)
    (h_nfeatures : interSize (pack ind1 data1) (pack ind2 data2) ≤ n) :
    SrcSparse.sparseRussellrao ind1 data1 ind2 data2 n
      = Sparse.sRussellRao n (pack ind1 data1) (pack ind2 data2) := by
  unfold SrcSparse.sparseRussellrao Sparse.sRussellRao Metrics.rat
  simp only [zipWith_beq_all, map_fst_pack hc1.1, map_fst_pack hc2.1, vals_pack hc1.1, vals_pack hc2.1,
    H.interLen _ _ _ _ hc1 hc2, isZ, cast_int_sub _ _ h_nfeatures, Bool.and_eq_true, eqV_iff, Nat.cast_inj,
    decide_eq_true_eq]

theorem sparseRussellrao_src (H : CoreSpec K) (ind1 ind2 : List Nat) (data1 data2 : List K)
    (n : Nat) (hc1 : Canon ind1 data1) (hc2 : Canon ind2 data2)
    (h_nfeatures : ∀ k ∈ ind1, k < n) :
    SrcSparse.sparseRussellrao ind1 data1 ind2 data2 n
      = Sparse.sRussellRao n (pack ind1 data1) (pack ind2 data2) :=
  sparseRussellrao_src_of_le H _ _ _ _ n hc1 hc2 (interSize_le_of_bound n hc1 h_nfeatures)

end counts

section loops
variable {α : Type} [OfNat α 0]

theorem foldl_set_sub [Sub α] (d : List α) (m : α) :
    List.foldl (fun st i => st.set i (d.getD i 0 - m)) (List.replicate d.length 0) (List.range d.length)
      = d.map (fun a => a - m) :=
  (foldl_set_replicate _ _ _).trans (map_range_getD d 0 (fun a => a - m))

/-- the loop of `sparse_correlation` over one row that subtracts the entries at non-common indices
    (`c`: the common indices, `arr_intersect ind1 ind2` in the source) -/
theorem foldl_noncommon [Sub α] [Mul α] {c ind1 ind2 : List Nat} {data1 data2 : List α}
    (hI : ∀ k, c.contains k = (ind1.contains k && ind2.contains k))
    (h1 : ind1.length = data1.length) (h2 : ind2.length = data2.length)
    (ind : List Nat) (sh : List α) (hlen : ind.length = sh.length) (m init : α) :
    List.foldl (fun st i =>
        if (!c.contains (ind.getD i 0)) = true then
          st - sh.getD i 0 * m else st) init (List.range ind.length)
      = List.foldl (fun acc p =>
          if ((List.any (pack ind1 data1) fun x => x.1 == p.1) &&
              List.any (pack ind2 data2) fun x => x.1 == p.1) = true then acc
          else acc - p.2 * m) init (pack ind sh) := by
  rw [show pack ind sh = ind.zip sh from rfl, zip_eq_map_range ind sh 0 0 rfl hlen.symm, List.foldl_map]
  apply List.foldl_ext
  intro acc i _
  rw [hI, any_pack h1, any_pack h2]
  cases (ind1.contains (ind.getD i 0) && ind2.contains (ind.getD i 0)) <;> rfl

end loops

section lld
variable {α : Type} [Add α] [Sub α] [Mul α] [Div α] [Neg α] [LT α] [LE α]
  [DecidableLT α] [DecidableLE α] [OfNat α 0] [OfNat α 1] [NatCast α] [IntCast α]

section
set_option linter.unusedSectionVars false

-- umap/sparse.py carries its own copies of the three scalar helpers of umap/distances.py: the same functions
theorem approxLogGamma_src (T : Transc α) (pi x : α) :
    SrcSparse.approxLogGamma T pi x = Metrics.approxLogGamma T pi x :=
  C12SrcC.approxLogGamma_src T pi x

theorem logBeta_src (T : Transc α) (pi x y : α) :
    SrcSparse.logBeta T pi x y = Metrics.logBeta T pi x y :=
  C12SrcC.logBeta_src T pi x y

theorem logSingleBeta_src (T : Transc α) (pi x : α) :
    SrcSparse.logSingleBeta T pi x = Metrics.logSingleBeta T pi x :=
  C12SrcC.logSingleBeta_src T pi x

end

/-- `sparse_ll_dirichlet`: any scalar type, no sortedness needed (the source's own while-loop merge and
    the model's `merge` walk the two rows in the same way); only `len(ind) = len(data)` is used. -/
theorem sparseLlDirichlet_src_of_length (T : Transc α) (pi : α) (ind1 ind2 : List Nat)
    (data1 data2 : List α) (h1 : ind1.length = data1.length) (h2 : ind2.length = data2.length) :
    SrcSparse.sparseLlDirichlet T pi ind1 data1 ind2 data2
      = Sparse.sLlDirichlet T pi ((100000000 : Nat) : α) (pack ind1 data1) (pack ind2 data2) := by
  unfold SrcSparse.sparseLlDirichlet Sparse.sLlDirichlet
  simp only [vals_pack h1, vals_pack h2, isZ, logBeta_src, logSingleBeta_src]
  rw [SparseSrcLemmasS1.whileN_merge_inner ind1 data1 ind2 data2 0
    (fun a b => if eqV (a * b) 0 = true then none else some (Metrics.logBeta T pi a b))
    (fun acc p => acc + p.2) h1 h2 ⟨fun _ => rfl, ?hE, ?hL, ?hG⟩ (ind1.length + ind2.length + 1) 0 0 0 rfl
    (Nat.lt_succ_self _)]
  case hE =>
    intro s e
    rw [if_pos (beq_iff_eq.2 e)]
    cases eqV (data1.getD s.1 0 * data2.getD s.2.1 0) 0 <;> rfl
  case hL => intro s e e'; rw [if_neg (mt beq_iff_eq.1 e), if_pos e']; rfl
  case hG => intro s e e'; rw [if_neg (mt beq_iff_eq.1 e), if_neg e']; rfl
  simp only [List.drop_zero, sumL, pack, List.foldl_map]
  rfl

theorem sparseLlDirichlet_src (T : Transc α) (pi : α) (ind1 ind2 : List Nat) (data1 data2 : List α)
    (hc1 : Canon ind1 data1) (hc2 : Canon ind2 data2) :
    SrcSparse.sparseLlDirichlet T pi ind1 data1 ind2 data2
      = Sparse.sLlDirichlet T pi ((100000000 : Nat) : α) (pack ind1 data1) (pack ind2 data2) :=
  sparseLlDirichlet_src_of_length T pi ind1 ind2 data1 data2 hc1.1 hc2.1

/-- `sparse_correlation` for any scalar type, given the four facts for which the source needs a field: it squares
    `norm(v)`, a square root (`h_sq`), and it computes `n - len(ind1)`, `n - len(ind2)`, `n - |union|` in Python
    ints where the model has truncating naturals (`h_n1`, `h_n2`, `h_nU`). -/
theorem sparseCorrelation_src_of_casts (H : CoreSpec α) (T : Transc α)
    (ind1 ind2 : List Nat) (data1 data2 : List α) (n : Nat) (hc1 : Canon ind1 data1) (hc2 : Canon ind2 data2)
    (h_sq : ∀ v : List α, SrcSparse.sq (SrcSparse.norm T v) = sumL (v.map (fun a => a * a)))
    (h_n1 : ((((n : Nat) : Int) - ((ind1.length : Nat) : Int) : Int) : α) = ((n - ind1.length : Nat) : α))
    (h_n2 : ((((n : Nat) : Int) - ((ind2.length : Nat) : Int) : Int) : α) = ((n - ind2.length : Nat) : α))
    (h_nU : ((((n : Nat) : Int) - ((unionSize (pack ind1 data1) (pack ind2 data2) : Nat) : Int) : Int) : α)
      = ((n - unionSize (pack ind1 data1) (pack ind2 data2) : Nat) : α)) :
    SrcSparse.sparseCorrelation T ind1 data1 ind2 data2 n
      = Sparse.sCorrelation T n (pack ind1 data1) (pack ind2 data2) := by
  have hI := H.interMem ind1 ind2 hc1.2 hc2.2
  unfold SrcSparse.sparseCorrelation Sparse.sCorrelation
  -- one pass (each further pass over the unfolded kernel costs as much as this one); the two `← pack_map` put
  -- the model's shifted rows in the form `pack ind (shifted data)` that `H.mul` and `foldl_noncommon` speak of
  simp only [C13SrcA.foldl_add_getD, foldl_set_sub, vals_pack hc1.1, vals_pack hc2.1, length_pack hc1.1,
    length_pack hc2.1, ← pack_map ind1 data1 (fun a => a - sumL data1 / (n : α)),
    ← pack_map ind2 data2 (fun a => a - sumL data2 / (n : α)),
    H.mul _ _ _ _ (hc1.map _) (hc2.map _), vals_pack (hc1.map _).1, vals_pack (hc2.map _).1, unpack,
    h_sq, h_n1, h_n2, H.unionLen _ _ _ _ hc1 hc2, h_nU,
    foldl_noncommon hI hc1.1 hc2.1 ind1 _ (hc1.map _).1, foldl_noncommon hI hc1.1 hc2.1 ind2 _ (hc2.map _).1]
  -- only the outer guard differs in form (`&&` of `==` against `∧` of `=`); the branches are the same terms
  exact if_congr (by simp) rfl rfl

end lld

section corr
variable {K : Type} [Field K] [LinearOrder K] [IsStrictOrderedRing K]

theorem sparseCorrelation_src_of_le (H : CoreSpec K) (T : Transc K)
    (h_sqrt : ∀ a : K, 0 ≤ a → T.sqrt a * T.sqrt a = a)
    (ind1 ind2 : List Nat) (data1 data2 : List K)
    (n : Nat) (hc1 : Canon ind1 data1) (hc2 : Canon ind2 data2)
    (h_n1 : ind1.length ≤ n) (h_n2 : ind2.length ≤ n)
    (h_nU : unionSize (pack ind1 data1) (pack ind2 data2) ≤ n) :
    SrcSparse.sparseCorrelation T ind1 data1 ind2 data2 n
      = Sparse.sCorrelation T n (pack ind1 data1) (pack ind2 data2) :=
  sparseCorrelation_src_of_casts H T ind1 ind2 data1 data2 n hc1 hc2
    (fun v => (congrArg SrcSparse.sq (C13SrcA.norm_src T v)).trans
      (h_sqrt _ ((Metrics.dot_self_nonneg v).trans_eq (Metrics.dot_self_eq v))))
    (cast_int_sub n _ h_n1) (cast_int_sub n _ h_n2) (cast_int_sub n _ h_nU)

/-- `sparse_correlation` under the library's precondition that all indices are `< n_features`. -/
theorem sparseCorrelation_src (H : CoreSpec K) (T : Transc K)
    (h_sqrt : ∀ a : K, 0 ≤ a → T.sqrt a * T.sqrt a = a)
    (ind1 ind2 : List Nat) (data1 data2 : List K)
    (n : Nat) (hc1 : Canon ind1 data1) (hc2 : Canon ind2 data2)
    (h_nfeatures1 : ∀ k ∈ ind1, k < n) (h_nfeatures2 : ∀ k ∈ ind2, k < n) :
    SrcSparse.sparseCorrelation T ind1 data1 ind2 data2 n
      = Sparse.sCorrelation T n (pack ind1 data1) (pack ind2 data2) := by
  have X := row_pack hc1 h_nfeatures1
  have Y := row_pack hc2 h_nfeatures2
  apply sparseCorrelation_src_of_le H T h_sqrt _ _ _ _ n hc1 hc2
  · rw [← length_pack hc1.1]; exact X.length_le
  · rw [← length_pack hc2.1]; exact Y.length_le
  · exact (X.merge Y _ _ _).length_le

end corr

end C13SrcB
end Umap
