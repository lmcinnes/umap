/-
  C12 (remaining dense metrics) — metric laws of `poincare`, `symmetric_kl` and `ll_dirichlet`.

  Model: `Umap.Metrics` instantiated at ℝ with `Umap.realT`.  `poincare` and `symmetric_kl` are total
  over ℝ where the float code yields NaN (`0/0`, `0 * log 0`): the hypotheses of `poincare_self`,
  `symmetricKl_self` record where the code is meant to be used.  For `ll_dirichlet`,
  "zero on identical arguments" fails for non-integer entries (`llDirichlet_self_counterexample`),
  holds for count vectors (`llDirichlet_self_nat`), and there only thanks to the clamp `max(0, ·)`
  (`llDirichlet_self_radicand_neg`).
-/
import UmapProps.C12Real
import Mathlib.Analysis.Complex.ExponentialBounds
import Mathlib.Analysis.Real.Pi.Bounds

namespace Umap
namespace C12
open Metrics

/-- the model returns the textbook value `arcosh (1 + 2 ‖u-v‖² / ((1-‖u‖²)(1-‖v‖²)))`. -/
theorem poincare_eq (u v : List ℝ) :
    poincare realT u v
      = Real.arcosh (1 + 2 * (sqDist u v / ((1 - dot u u) * (1 - dot v v)))) := by
  simp only [poincare, sqDist, two, realT, Nat.cast_ofNat]

theorem poincare_symm (u v : List ℝ) : poincare realT v u = poincare realT u v := by
  rw [poincare_eq, poincare_eq, sqDist_symm u v, mul_comm (1 - dot v v)]

/-- the argument handed to `arccosh` is at least 1 inside the open unit ball. -/
theorem poincare_arg_ge_one (u v : List ℝ) (hu : dot u u < 1) (hv : dot v v < 1) :
    1 ≤ 1 + 2 * (sqDist u v / ((1 - dot u u) * (1 - dot v v))) :=
  le_add_of_nonneg_right (mul_nonneg zero_le_two (div_nonneg (sqDist_nonneg u v)
    (mul_pos (sub_pos.mpr hu) (sub_pos.mpr hv)).le))

theorem poincare_nonneg (u v : List ℝ) (hu : dot u u < 1) (hv : dot v v < 1) :
    0 ≤ poincare realT u v := by
  rw [poincare_eq]
  exact Real.arcosh_nonneg (poincare_arg_ge_one u v hu hv)

/-- `cosh` of the distance is the textbook ratio (so the `arccosh` is taken on its domain). -/
theorem cosh_poincare (u v : List ℝ) (hu : dot u u < 1) (hv : dot v v < 1) :
    Real.cosh (poincare realT u v)
      = 1 + 2 * (sqDist u v / ((1 - dot u u) * (1 - dot v v))) := by
  rw [poincare_eq]
  exact Real.cosh_arcosh (poincare_arg_ge_one u v hu hv)

/-- zero on identical arguments.  Over ℝ this holds for every `u` (the numerator is `0` and
    `0 / 0 = 0`); in floating point `‖u‖² = 1` gives `0/0 = NaN`, hence the hypothesis in
    `poincare_self`. -/
theorem poincare_self_total (u : List ℝ) : poincare realT u u = 0 := by
  rw [poincare_eq, sqDist_self, zero_div, mul_zero, add_zero]
  exact Real.arcosh_zero

theorem poincare_self (u : List ℝ) (_hu : dot u u < 1) : poincare realT u u = 0 :=
  poincare_self_total u

theorem poincare_eq_zero (u v : List ℝ) (h : u.length = v.length)
    (hu : dot u u < 1) (hv : dot v v < 1) (h0 : poincare realT u v = 0) : u = v := by
  rw [poincare_eq] at h0
  have h1 := (Real.arcosh_eq_zero_iff (poincare_arg_ge_one u v hu hv)).mp h0
  have hden : (1 - dot u u) * (1 - dot v v) ≠ 0 :=
    mul_ne_zero (sub_pos.mpr hu).ne' (sub_pos.mpr hv).ne'
  rw [add_eq_left, mul_eq_zero, div_eq_zero_iff] at h1
  exact sqDist_eq_zero u v h ((h1.resolve_left two_ne_zero).resolve_right hden)

theorem poincare_eq_zero_iff (u v : List ℝ) (h : u.length = v.length)
    (hu : dot u u < 1) (hv : dot v v < 1) : poincare realT u v = 0 ↔ u = v :=
  ⟨poincare_eq_zero u v h hu hv, fun e => e ▸ poincare_self_total u⟩

/-- non-vacuity: two distinct points of the open unit disc, and the value of the ratio. -/
example : dot ([1/2, 0] : List ℝ) [1/2, 0] < 1 ∧ dot ([0, 1/2] : List ℝ) [0, 1/2] < 1
    ∧ ([1/2, 0] : List ℝ).length = ([0, 1/2] : List ℝ).length
    ∧ Real.cosh (poincare realT [1/2, 0] [0, 1/2]) = 25 / 9 := by
  have h1 : dot ([1/2, 0] : List ℝ) [1/2, 0] < 1 := by
    simp only [dot, List.zip_cons_cons, List.zip_nil_right, List.map_cons, List.map_nil,
      sumL_cons, sumL_nil]
    norm_num
  have h2 : dot ([0, 1/2] : List ℝ) [0, 1/2] < 1 := by
    simp only [dot, List.zip_cons_cons, List.zip_nil_right, List.map_cons, List.map_nil,
      sumL_cons, sumL_nil]
    norm_num
  refine ⟨h1, h2, rfl, ?_⟩
  rw [cosh_poincare _ _ h1 h2]
  simp only [sqDist, diffs, dot, List.zip_cons_cons, List.zip_nil_right, List.map_cons,
    List.map_nil, sumL_cons, sumL_nil]
  norm_num

/-- the two summands of one coordinate: `p log(p/q)` and `q log(q/p)` for the smoothed,
    normalised coordinates `p = (a+z)/xs`, `q = (b+z)/ys`. -/
noncomputable def klTerm (z xs ys : ℝ) (p : ℝ × ℝ) : ℝ × ℝ :=
  ((p.1 + z) / xs * Real.log ((p.1 + z) / xs / ((p.2 + z) / ys)),
   (p.2 + z) / ys * Real.log ((p.2 + z) / ys / ((p.1 + z) / xs)))

/-- the smoothed mass `∑ (x_i + z)`. -/
noncomputable def smoothSum (z : ℝ) (x : List ℝ) : ℝ := sumL (x.map (· + z))

/-- the model is the textbook symmetrised KL divergence `(KL(p‖q) + KL(q‖p)) / 2` of the
    smoothed, normalised vectors. -/
theorem symmetricKl_eq (z : ℝ) (x y : List ℝ) :
    symmetricKl realT z x y
      = (sumL ((x.zip y).map (fun p => (klTerm z (smoothSum z x) (smoothSum z y) p).1))
          + sumL ((x.zip y).map (fun p => (klTerm z (smoothSum z x) (smoothSum z y) p).2))) / 2 := by
  simp only [symmetricKl, klTerm, smoothSum, two, realT, Nat.cast_ofNat, List.map_map]
  rfl

theorem symmetricKl_symm (z : ℝ) (x y : List ℝ) :
    symmetricKl realT z y x = symmetricKl realT z x y := by
  rw [symmetricKl_eq, symmetricKl_eq, map_zip_swap x y, map_zip_swap x y, add_comm]
  rfl

theorem mul_log_div_self (p : ℝ) : p * Real.log (p / p) = 0 := by
  rw [Real.log_div_self, mul_zero]

/-- zero on identical arguments; over ℝ for every `z` and `x`.  (In floating point the terms
    are `0 * log(0/0) = NaN` when a smoothed coordinate vanishes, whence the hypotheses of
    `symmetricKl_self`.) -/
theorem symmetricKl_self_total (z : ℝ) (x : List ℝ) : symmetricKl realT z x x = 0 := by
  rw [symmetricKl_eq, sumL_zip_self _ fun a => mul_log_div_self _,
    sumL_zip_self _ fun a => mul_log_div_self _]
  norm_num

theorem symmetricKl_self (z : ℝ) (_hz : 0 < z) (x : List ℝ) (_hx : ∀ v ∈ x, 0 ≤ v) :
    symmetricKl realT z x x = 0 :=
  symmetricKl_self_total z x

/-- the pair of terms of one coordinate. -/
theorem kl_pair_eq {p q : ℝ} (hp : 0 < p) (hq : 0 < q) :
    p * Real.log (p / q) + q * Real.log (q / p) = (p - q) * (Real.log p - Real.log q) := by
  rw [Real.log_div hp.ne' hq.ne', Real.log_div hq.ne' hp.ne']
  ring

theorem kl_pair_nonneg {p q : ℝ} (hp : 0 < p) (hq : 0 < q) :
    0 ≤ p * Real.log (p / q) + q * Real.log (q / p) := by
  rw [kl_pair_eq hp hq]
  rcases le_total p q with h | h
  · exact mul_nonneg_of_nonpos_of_nonpos (sub_nonpos.mpr h) (sub_nonpos.mpr (Real.log_le_log hp h))
  · exact mul_nonneg (sub_nonneg.mpr h) (sub_nonneg.mpr (Real.log_le_log hq h))

theorem smoothSum_pos (z : ℝ) (hz : 0 < z) (x : List ℝ) (hx : ∀ v ∈ x, 0 ≤ v) (hne : x ≠ []) :
    0 < smoothSum z x :=
  sumL_pos _ x hne fun v hv => add_pos_of_nonneg_of_pos (hx v hv) hz

theorem klCoord_pos (z : ℝ) (hz : 0 < z) (x y : List ℝ)
    (hx : ∀ v ∈ x, 0 ≤ v) (hy : ∀ v ∈ y, 0 ≤ v) :
    ∀ p ∈ x.zip y, 0 < (p.1 + z) / smoothSum z x ∧ 0 < (p.2 + z) / smoothSum z y := by
  intro p hp
  have hab := List.of_mem_zip hp
  exact ⟨div_pos (add_pos_of_nonneg_of_pos (hx _ hab.1) hz)
      (smoothSum_pos z hz x hx (List.ne_nil_of_mem hab.1)),
    div_pos (add_pos_of_nonneg_of_pos (hy _ hab.2) hz)
      (smoothSum_pos z hz y hy (List.ne_nil_of_mem hab.2))⟩

theorem symmetricKl_nonneg (z : ℝ) (hz : 0 < z) (x y : List ℝ)
    (hx : ∀ v ∈ x, 0 ≤ v) (hy : ∀ v ∈ y, 0 ≤ v) : 0 ≤ symmetricKl realT z x y := by
  rw [symmetricKl_eq, ← sumL_map_add]
  have hpos := klCoord_pos z hz x y hx hy
  exact div_nonneg
    (sumL_map_nonneg _ _ fun p hp => kl_pair_nonneg (hpos p hp).1 (hpos p hp).2) zero_le_two

/-- non-vacuity of `symmetricKl_nonneg` / `symmetricKl_self`. -/
example : (0 : ℝ) < 1 / 100 ∧ (∀ v ∈ ([1, 0, 2] : List ℝ), 0 ≤ v) ∧ (∀ v ∈ ([0, 3, 1] : List ℝ), 0 ≤ v)
    ∧ 0 ≤ symmetricKl realT (1 / 100) [1, 0, 2] [0, 3, 1] := by
  have h1 : ∀ v ∈ ([1, 0, 2] : List ℝ), 0 ≤ v :=
    List.forall_mem_cons.mpr ⟨by norm_num, forall_mem_pair (by norm_num) (by norm_num)⟩
  have h2 : ∀ v ∈ ([0, 3, 1] : List ℝ), 0 ≤ v :=
    List.forall_mem_cons.mpr ⟨by norm_num, forall_mem_pair (by norm_num) (by norm_num)⟩
  exact ⟨by norm_num, h1, h2, symmetricKl_nonneg _ (by norm_num) _ _ h1 h2⟩

theorem kl_pair_eq_zero {p q : ℝ} (hp : 0 < p) (hq : 0 < q)
    (h : p * Real.log (p / q) + q * Real.log (q / p) = 0) : p = q := by
  rw [kl_pair_eq hp hq] at h
  rcases mul_eq_zero.mp h with h1 | h1
  · exact sub_eq_zero.mp h1
  · exact Real.log_injOn_pos (Set.mem_Ioi.mpr hp) (Set.mem_Ioi.mpr hq) (sub_eq_zero.mp h1)

/-- identity of indiscernibles, at the level of the smoothed, normalised coordinates. -/
theorem symmetricKl_eq_zero (z : ℝ) (hz : 0 < z) (x y : List ℝ)
    (hx : ∀ v ∈ x, 0 ≤ v) (hy : ∀ v ∈ y, 0 ≤ v) (h0 : symmetricKl realT z x y = 0) :
    ∀ p ∈ x.zip y, (p.1 + z) / smoothSum z x = (p.2 + z) / smoothSum z y := by
  rw [symmetricKl_eq, ← sumL_map_add, div_eq_zero_iff, or_iff_left (two_ne_zero (α := ℝ))] at h0
  have hpos := klCoord_pos z hz x y hx hy
  intro p hp
  exact kl_pair_eq_zero (hpos p hp).1 (hpos p hp).2
    ((sumL_map_eq_zero_iff _ _ fun p hp => kl_pair_nonneg (hpos p hp).1 (hpos p hp).2).mp h0 p hp)

/-- non-vacuity of `symmetricKl_eq_zero`. -/
example : (0 : ℝ) < 1 / 100 ∧ (∀ v ∈ ([1, 2] : List ℝ), 0 ≤ v)
    ∧ symmetricKl realT (1 / 100) [1, 2] [1, 2] = 0 := by
  refine ⟨by norm_num, ?_, symmetricKl_self_total _ _⟩
  exact forall_mem_pair (by norm_num) (by norm_num)

/-- `log_beta` is symmetric: it only looks at `min`, `max` and the symmetric Stirling sum. -/
theorem logBeta_symm (pi x y : ℝ) : logBeta realT pi y x = logBeta realT pi x y := by
  unfold logBeta
  simp only [minV_eq_min, maxV_eq_max, min_comm y x, max_comm y x, add_comm y x,
    add_comm (approxLogGamma realT pi y) (approxLogGamma realT pi x)]

/-- one iteration of the loop of `ll_dirichlet` on the triple
    `(log_b, self_denom1, self_denom2)`. -/
noncomputable def lldStep (pi : ℝ) (acc : ℝ × ℝ × ℝ) (p : ℝ × ℝ) : ℝ × ℝ × ℝ :=
  if (((9 : Nat) : ℝ) / ((10 : Nat) : ℝ)) < p.1 * p.2 then
    (acc.1 + logBeta realT pi p.1 p.2, acc.2.1 + logSingleBeta realT pi p.1,
      acc.2.2 + logSingleBeta realT pi p.2)
  else
    (acc.1,
      (if (((9 : Nat) : ℝ) / ((10 : Nat) : ℝ)) < p.1 then acc.2.1 + logSingleBeta realT pi p.1
        else acc.2.1),
      (if (((9 : Nat) : ℝ) / ((10 : Nat) : ℝ)) < p.2 then acc.2.2 + logSingleBeta realT pi p.2
        else acc.2.2))

/-- the final expression of `ll_dirichlet` from the two totals and the accumulated triple. -/
noncomputable def lldValue (pi n1 n2 : ℝ) (acc : ℝ × ℝ × ℝ) : ℝ :=
  1 / n2 * (acc.1 - logBeta realT pi n1 n2 - (acc.2.2 - logSingleBeta realT pi n2))
    + 1 / n1 * (acc.1 - logBeta realT pi n2 n1 - (acc.2.1 - logSingleBeta realT pi n1))

/-- the branches of `ll_dirichlet`, with the float equality tests read as equalities. -/
theorem llDirichlet_eq (pi big : ℝ) (d1 d2 : List ℝ) :
    llDirichlet realT pi big d1 d2 =
      if sumL d1 = 0 ∧ sumL d2 = 0 then 0
      else if sumL d1 = 0 ∨ sumL d2 = 0 then big
      else Real.sqrt (max 0 (lldValue pi (sumL d1) (sumL d2)
        ((d1.zip d2).foldl (lldStep pi) (0, 0, 0)))) := by
  simp only [llDirichlet, Bool.and_eq_true, Bool.or_eq_true, eqV_iff, maxV_eq_max]
  rfl

/-- exchange of the two `self_denom` accumulators. -/
def sw3 (a : ℝ × ℝ × ℝ) : ℝ × ℝ × ℝ := (a.1, a.2.2, a.2.1)

theorem lldStep_swap (pi : ℝ) (acc : ℝ × ℝ × ℝ) (p : ℝ × ℝ) :
    lldStep pi (sw3 acc) p.swap = sw3 (lldStep pi acc p) := by
  unfold lldStep
  -- the guard and `log_beta` are symmetric; the two inner `if`s are separate components
  rw [Prod.fst_swap, Prod.snd_swap, mul_comm p.2 p.1, logBeta_symm pi p.1 p.2, apply_ite sw3]
  rfl

theorem lldFold_zip_swap (pi : ℝ) (d1 d2 : List ℝ) :
    (d2.zip d1).foldl (lldStep pi) (0, 0, 0) = sw3 ((d1.zip d2).foldl (lldStep pi) (0, 0, 0)) := by
  rw [← List.zip_swap d1 d2]
  exact foldl_map_hom sw3 Prod.swap (lldStep pi) (lldStep_swap pi) _ (0, 0, 0)

theorem lldValue_swap (pi n1 n2 : ℝ) (acc : ℝ × ℝ × ℝ) :
    lldValue pi n2 n1 (sw3 acc) = lldValue pi n1 n2 acc := by
  unfold lldValue sw3
  exact add_comm _ _

theorem llDirichlet_symm (pi big : ℝ) (d1 d2 : List ℝ) :
    llDirichlet realT pi big d2 d1 = llDirichlet realT pi big d1 d2 := by
  rw [llDirichlet_eq, llDirichlet_eq, lldFold_zip_swap, lldValue_swap, ite_and_or_comm]

/-- non-negative as soon as the constant returned for an empty count vector is (`1e8` in the
    code). -/
theorem llDirichlet_nonneg (pi big : ℝ) (hbig : 0 ≤ big) (d1 d2 : List ℝ) :
    0 ≤ llDirichlet realT pi big d1 d2 := by
  rw [llDirichlet_eq]
  split_ifs
  · exact le_refl _
  · exact hbig
  · exact Real.sqrt_nonneg _

/-- conventions for empty count vectors. -/
theorem llDirichlet_zero_zero (pi big : ℝ) (d1 d2 : List ℝ) (h1 : sumL d1 = 0) (h2 : sumL d2 = 0) :
    llDirichlet realT pi big d1 d2 = 0 := by
  rw [llDirichlet_eq, if_pos ⟨h1, h2⟩]

theorem llDirichlet_zero_left (pi big : ℝ) (d1 d2 : List ℝ) (h1 : sumL d1 = 0) (h2 : sumL d2 ≠ 0) :
    llDirichlet realT pi big d1 d2 = big := by
  rw [llDirichlet_eq, if_neg (fun h => h2 h.2), if_pos (Or.inl h1)]

theorem llDirichlet_zero_right (pi big : ℝ) (d1 d2 : List ℝ) (h1 : sumL d1 ≠ 0) (h2 : sumL d2 = 0) :
    llDirichlet realT pi big d1 d2 = big := by
  rw [llDirichlet_eq, if_neg (fun h => h1 h.1), if_pos (Or.inr h2)]

/-- the gap between the approximation `log_single_beta x` and the `log_beta x x` it stands for. -/
noncomputable def betaGap (pi x : ℝ) : ℝ := logSingleBeta realT pi x - logBeta realT pi x x

/-- the contribution of one coordinate `a` of `d` to `log_b` and to each of `self_denom1`,
    `self_denom2` in the loop of `ll_dirichlet d d`. -/
noncomputable def selfLb (pi a : ℝ) : ℝ := if (9 : ℝ) / 10 < a then logBeta realT pi a a else 0
noncomputable def selfSd (pi a : ℝ) : ℝ := if (9 : ℝ) / 10 < a then logSingleBeta realT pi a else 0

/-- the two thresholds of the loop agree on the coordinate `a` (true for `a = 0` and `a ≥ 1`, in
    particular for counts; false only for `a < -0.948…` and `0.9 < a ≤ 0.948…`). -/
def ThrAgree (a : ℝ) : Prop := ((9 : ℝ) / 10 < a * a ↔ (9 : ℝ) / 10 < a)

theorem lldStep_self (pi : ℝ) (acc : ℝ × ℝ × ℝ) (a : ℝ) (ha : ThrAgree a) :
    lldStep pi acc (a, a) = (acc.1 + selfLb pi a, acc.2.1 + selfSd pi a, acc.2.2 + selfSd pi a) := by
  unfold lldStep selfLb selfSd
  unfold ThrAgree at ha
  simp only [Nat.cast_ofNat]
  by_cases h : (9 : ℝ) / 10 < a
  · rw [if_pos (ha.mpr h), if_pos h, if_pos h]
  · rw [if_neg (fun h' => h (ha.mp h')), if_neg h, if_neg h, if_neg h, if_neg h]
    simp

theorem lldFold_self (pi : ℝ) (d : List ℝ) (hd : ∀ a ∈ d, ThrAgree a) (acc : ℝ × ℝ × ℝ) :
    (d.zip d).foldl (lldStep pi) acc
      = (acc.1 + sumL (d.map (selfLb pi)), acc.2.1 + sumL (d.map (selfSd pi)),
          acc.2.2 + sumL (d.map (selfSd pi))) := by
  induction d generalizing acc with
  | nil => simp only [List.zip_nil_right, List.foldl_nil, List.map_nil, sumL_nil, add_zero]
  | cons a d ih =>
    obtain ⟨ha, hd⟩ := List.forall_mem_cons.1 hd
    rw [List.zip_cons_cons, List.foldl_cons, lldStep_self pi acc a ha, ih hd]
    simp only [List.map_cons, sumL_cons, add_assoc]

/-- the gap contributed by one coordinate. -/
noncomputable def selfGap (pi a : ℝ) : ℝ := if (9 : ℝ) / 10 < a then betaGap pi a else 0

/-- **value on identical arguments**: with `n = ∑ d`, `ll_dirichlet d d` is the clamped root of
    `(2/n) (gap n − ∑_{d_i > 0.9} gap d_i)`, where `gap x = log_single_beta x − log_beta x x`. -/
theorem llDirichlet_self_eq (pi big : ℝ) (d : List ℝ) (hd : ∀ a ∈ d, ThrAgree a)
    (hn : sumL d ≠ 0) :
    llDirichlet realT pi big d d
      = Real.sqrt (max 0 (2 / sumL d * (betaGap pi (sumL d) - sumL (d.map (selfGap pi))))) := by
  rw [llDirichlet_eq, if_neg (fun h => hn h.1), if_neg (fun h => hn (h.elim id id)),
    lldFold_self pi d hd]
  congr 2
  have e : sumL (d.map (selfGap pi)) = sumL (d.map (selfSd pi)) - sumL (d.map (selfLb pi)) := by
    rw [← sumL_map_sub]
    congr 1
    apply List.map_congr_left
    intro a _
    unfold selfGap selfSd selfLb betaGap
    split_ifs <;> ring
  rw [e]
  unfold lldValue betaGap
  ring

/-- the loop of `log_beta` below the switch, `n` steps from `-log b`.  (It is `log B(b, n + 1)` by
    Euler's product, so `log_beta` is exact on integers below `5`; only the recurrences are needed
    here.) -/
noncomputable def logBetaLoop (b : ℝ) (n : ℕ) : ℝ :=
  (List.range n).foldl (fun v i =>
    v + (Real.log ((i + 1 : ℕ) : ℝ) - Real.log (b + ((i + 1 : ℕ) : ℝ)))) (-(Real.log b))

/-- below the switch at `5`, `log_beta x x` runs the loop `int(x) - 1` times. -/
theorem logBeta_self_of_lt_five (pi x : ℝ) (h0 : 0 ≤ x) (h : x < 5) :
    logBeta realT pi x x = logBetaLoop x (⌊x⌋.toNat - 1) := by
  unfold logBeta
  simp only [minV_eq_min, maxV_eq_max, min_self, max_self, realT]
  rw [if_pos (by push_cast; exact h), if_pos h0]
  rfl

theorem logBetaLoop_zero (b : ℝ) : logBetaLoop b 0 = -Real.log b := rfl

theorem logBetaLoop_succ (b : ℝ) (n : ℕ) :
    logBetaLoop b (n + 1) = logBetaLoop b n + (Real.log (n + 1) - Real.log (b + (n + 1))) := by
  rw [logBetaLoop, foldl_range_succ, Nat.cast_succ]; rfl

/-- raising `b` by one moves each factor `b + i` of the denominator one place. -/
theorem logBetaLoop_add_one (b : ℝ) (n : ℕ) :
    logBetaLoop (b + 1) n = logBetaLoop b n + Real.log b - Real.log (b + (n + 1)) := by
  induction n with
  | zero => rw [logBetaLoop_zero, logBetaLoop_zero, Nat.cast_zero, zero_add, neg_add_cancel, zero_sub]
  | succ n ih =>
    rw [logBetaLoop_succ, logBetaLoop_succ, ih, Nat.cast_succ, add_right_comm b 1, add_assoc b]
    ring

theorem logBeta_natCast_succ (pi : ℝ) (m : ℕ) (h5 : m + 1 < 5) :
    logBeta realT pi ((m + 1 : ℕ) : ℝ) ((m + 1 : ℕ) : ℝ) = logBetaLoop ((m + 1 : ℕ) : ℝ) m := by
  rw [logBeta_self_of_lt_five pi _ (Nat.cast_nonneg _) (by exact_mod_cast h5), Int.floor_natCast,
    Int.toNat_natCast, Nat.add_sub_cancel]

/-- the recurrence `B(k+1, k+1) = B(k, k) · k / (2 (2k+1))`, as long as `log_beta` runs its loop. -/
theorem logBeta_succ_self (pi : ℝ) (k : ℕ) (hk : 1 ≤ k) (h5 : k + 1 < 5) :
    logBeta realT pi ((k + 1 : ℕ) : ℝ) ((k + 1 : ℕ) : ℝ)
      = logBeta realT pi k k + Real.log k - Real.log 2 - Real.log (2 * k + 1) := by
  obtain ⟨m, rfl⟩ := Nat.exists_eq_add_of_le' hk
  rw [logBeta_natCast_succ pi _ h5, logBeta_natCast_succ pi _ (by omega), Nat.cast_succ (m + 1),
    Nat.cast_succ m, logBetaLoop_succ, logBetaLoop_add_one, ← two_mul, add_right_comm _ 1, ← two_mul,
    Real.log_mul two_ne_zero (Nat.cast_add_one_ne_zero m)]
  ring

/-- `log B(k, k)` for `k = 1, …, 4`: `B = 1, 1/6, 1/30, 1/140`. -/
theorem logBeta_one (pi : ℝ) : logBeta realT pi 1 1 = 0 := by
  have h := logBeta_natCast_succ pi 0 (by norm_num)
  rwa [Nat.zero_add, Nat.cast_one, logBetaLoop_zero, Real.log_one, neg_zero] at h

theorem logBeta_two (pi : ℝ) : logBeta realT pi 2 2 = -(Real.log 2 + Real.log 3) := by
  have h := logBeta_succ_self pi 1 le_rfl (by norm_num)
  norm_num [logBeta_one] at h
  linear_combination h

theorem logBeta_three (pi : ℝ) :
    logBeta realT pi 3 3 = -(Real.log 2 + Real.log 3 + Real.log 5) := by
  have h := logBeta_succ_self pi 2 (by norm_num) (by norm_num)
  norm_num [logBeta_two] at h
  linear_combination h

theorem logBeta_four (pi : ℝ) :
    logBeta realT pi 4 4 = -(2 * Real.log 2 + Real.log 5 + Real.log 7) := by
  have h := logBeta_succ_self pi 3 (by norm_num) (by norm_num)
  norm_num [logBeta_three] at h
  linear_combination h

/-- off the integers the loop stops early: for `1 ≤ x < 2` it does not run at all. -/
theorem logBeta_three_halves (pi : ℝ) : logBeta realT pi (3 / 2) (3 / 2) = - Real.log (3 / 2) := by
  rw [logBeta_self_of_lt_five pi _ (by norm_num) (by norm_num),
    show ⌊(3 / 2 : ℝ)⌋ = 1 by rw [Int.floor_eq_iff]; norm_num]
  rfl

theorem logSingleBeta_eq (pi x : ℝ) :
    logSingleBeta realT pi x
      = Real.log 2 * (-2 * x + 1 / 2) + 1 / 2 * Real.log (2 * pi / x) + 1 / 8 / x := by
  simp only [logSingleBeta, two, realT, Nat.cast_ofNat]

theorem log_two_pi_div (pi x : ℝ) (hpi : 0 < pi) (hx : x ≠ 0) :
    Real.log (2 * pi / x) = Real.log 2 + Real.log pi - Real.log x := by
  rw [Real.log_div (by positivity) hx, Real.log_mul (by norm_num) hpi.ne']

/-- the gap with `log (2π/x)` split: linear in `log 2`, `log π`, `log x` and `log_beta x x`. -/
theorem betaGap_eq (pi x : ℝ) (hpi : 0 < pi) (hx : x ≠ 0) :
    betaGap pi x = Real.log 2 * (-2 * x + 1 / 2) + 1 / 2 * (Real.log 2 + Real.log pi - Real.log x)
      + 1 / 8 / x - logBeta realT pi x x := by
  rw [betaGap, logSingleBeta_eq, log_two_pi_div pi x hpi hx]

/-- for `x ≥ 5`, where `log_beta` switches to the Stirling sum, `log_single_beta x` is *exactly*
    `log_beta x x`. -/
theorem betaGap_of_five_le (pi x : ℝ) (hpi : 0 < pi) (hx : 5 ≤ x) : betaGap pi x = 0 := by
  have h1 : 1 < x := lt_of_lt_of_le (by norm_num) hx
  have h0 : 0 < x := one_pos.trans h1
  have h2 : 1 < x + x := lt_add_of_lt_of_pos h1 h0
  rw [betaGap_eq pi x hpi h0.ne']
  unfold logBeta
  simp only [minV_eq_min, maxV_eq_max, min_self, max_self]
  rw [if_neg (not_lt.mpr (by rwa [Nat.cast_ofNat]))]
  unfold approxLogGamma
  rw [if_neg (by rw [eqV_iff]; exact h1.ne'), if_neg (by rw [eqV_iff]; exact h2.ne')]
  simp only [two, realT, Nat.cast_ofNat]
  rw [log_two_pi_div pi x hpi h0.ne', log_two_pi_div pi (x + x) hpi (one_pos.trans h2).ne',
    ← two_mul x, Real.log_mul two_ne_zero h0.ne']
  ring

/-- **Counterexample.**  `ll_dirichlet` of the vector `(1.5, 1.5)` with itself is not `0`: it
    exceeds `1/2` (numerically `0.839…`), for every value `0 < pi < 4` of the constant.  Reason:
    for a non-integer `x < 5`, `log_beta x x` runs its loop `int(x) - 1` times and is far from
    `log B(x, x)`, whereas `log_single_beta x` approximates the true `log B(x, x)`. -/
theorem llDirichlet_self_counterexample (pi big : ℝ) (h0 : 0 < pi) (h4 : pi < 4) :
    1 / 2 < llDirichlet realT pi big [3 / 2, 3 / 2] [3 / 2, 3 / 2] := by
  have hs : sumL ([3 / 2, 3 / 2] : List ℝ) = 3 := by
    simp only [sumL_cons, sumL_nil]; norm_num
  rw [llDirichlet_self_eq pi big _ (by
      have h : ThrAgree (3 / 2) := iff_of_true (by norm_num) (by norm_num)
      exact forall_mem_pair h h)
    (by rw [hs]; norm_num), hs]
  have hg : selfGap pi (3 / 2) = betaGap pi (3 / 2) := by
    unfold selfGap; rw [if_pos (by norm_num)]
  simp only [List.map_cons, List.map_nil, sumL_cons, sumL_nil, hg]
  rw [betaGap_eq pi 3 h0 three_ne_zero, betaGap_eq pi (3 / 2) h0 (by norm_num), logBeta_three,
    logBeta_three_halves, Real.log_div three_ne_zero two_ne_zero]
  have l2 := Real.log_two_gt_d9
  have l3 : Real.log 3 < Real.log 4 := Real.log_lt_log (by norm_num) (by norm_num)
  have l5 : Real.log 4 < Real.log 5 := Real.log_lt_log (by norm_num) (by norm_num)
  have lp : Real.log pi < Real.log 4 := Real.log_lt_log h0 h4
  apply (Real.lt_sqrt (by norm_num)).mpr
  apply lt_max_of_lt_right
  -- the radicand is `2/3 (log 2 - 3 log 3 + 2 log 5 - log π - 1/4)`, above `2/3 (log 2 - 1/4)`:
  -- `log 4` cancels
  linear_combination (1 / 3) * l3 + (2 / 3) * l5 + (1 / 3) * lp + (2 / 3) * l2

example : (1 : ℝ) / 2 < llDirichlet realT Real.pi (10 ^ 8) [3 / 2, 3 / 2] [3 / 2, 3 / 2] :=
  llDirichlet_self_counterexample _ _ Real.pi_pos Real.pi_lt_four

/-- **one step along the integers**, as long as `log_beta` runs its loop:
    `gap k − gap (k+1) = ½ (t − log (1 + t))` with `t = 1 / (4k(k+1))` (the recurrence of `B(k, k)`
    against that of the Stirling term), positive because `log (1 + t) < t`. -/
theorem betaGap_sub_succ (pi : ℝ) (hpi : 0 < pi) (k : ℕ) (hk : 1 ≤ k) (h5 : k + 1 < 5) :
    betaGap pi k - betaGap pi ((k + 1 : ℕ) : ℝ)
      = 1 / 2 * (1 / (4 * k * (k + 1)) - Real.log (1 + 1 / (4 * k * (k + 1)))) := by
  have hk0 : (k : ℝ) ≠ 0 := Nat.cast_ne_zero.mpr (Nat.pos_iff_ne_zero.mp hk)
  have hk1 : (k : ℝ) + 1 ≠ 0 := Nat.cast_add_one_ne_zero k
  have h4k : (4 : ℝ) * k ≠ 0 := mul_ne_zero four_ne_zero hk0
  have hr : 1 / (k : ℝ) - 1 / (k + 1) = 4 * (1 / (4 * k * (k + 1))) := by
    rw [div_sub_div _ _ hk0 hk1, mul_one_div,
      div_eq_div_iff (mul_ne_zero hk0 hk1) (mul_ne_zero h4k hk1)]
    ring
  -- `1 + t = (2k+1)² / (4k(k+1))`, so `log (1 + t)` splits into the logarithms of the recurrence
  rw [betaGap_eq pi k hpi hk0, betaGap_eq pi _ hpi (Nat.cast_ne_zero.mpr k.succ_ne_zero),
    logBeta_succ_self pi k hk h5, Nat.cast_succ, one_add_div (mul_ne_zero h4k hk1),
    show 4 * (k : ℝ) * (k + 1) + 1 = (2 * k + 1) ^ 2 by ring,
    Real.log_div (pow_ne_zero 2 (by positivity)) (mul_ne_zero h4k hk1), Real.log_pow,
    Real.log_mul h4k hk1, Real.log_mul four_ne_zero hk0, Real.log_four_eq, Nat.cast_ofNat]
  linear_combination (1 / 8) * hr

theorem betaGap_succ_lt (pi : ℝ) (hpi : 0 < pi) (k : ℕ) (hk : 1 ≤ k) (h5 : k + 1 < 5) :
    betaGap pi ((k + 1 : ℕ) : ℝ) < betaGap pi k := by
  have ht : (0 : ℝ) < 1 / (4 * k * (k + 1)) :=
    one_div_pos.mpr (mul_pos (mul_pos four_pos (Nat.cast_pos.mpr hk)) (Nat.cast_add_one_pos k))
  have hl := Real.log_lt_sub_one_of_pos (add_pos one_pos ht) (lt_add_of_pos_right 1 ht).ne'
  rw [add_sub_cancel_left] at hl
  rw [← sub_pos, betaGap_sub_succ pi hpi k hk h5]
  exact mul_pos one_half_pos (sub_pos.mpr hl)

/-- the gap is still non-negative at `4`, the last integer before the switch (this is
    `4096 / (1225 π) ≤ exp (1/16)`, true with a margin of `10⁻⁴`; any `pi > 3.1415` will do). -/
theorem betaGap_four_nonneg (pi : ℝ) (hpi : 3.1415 < pi) : 0 ≤ betaGap pi 4 := by
  have hp0 : 0 < pi := lt_trans (by norm_num) hpi
  rw [betaGap_eq pi 4 hp0 four_ne_zero, logBeta_four, Real.log_four_eq]
  -- `2¹² / (5² 7² π) = 4096 / (1225 π) ≤ 545/512 = 1 + t + t²/2 ≤ exp t` at `t = 1/16`
  have hq := Real.quadratic_le_exp_of_nonneg (show (0 : ℝ) ≤ 1 / 16 by norm_num)
  have hx : 2 ^ 12 / (5 ^ 2 * 7 ^ 2 * pi) ≤ Real.exp (1 / 16) := by
    refine le_trans ?_ hq
    rw [div_le_iff₀ (by positivity)]
    linear_combination (545 / 512 * 1225) * hpi
  have h := (Real.log_le_iff_le_exp (by positivity)).mpr hx
  rw [Real.log_div (by norm_num) (by positivity), Real.log_mul (by norm_num) hp0.ne',
    Real.log_mul (by norm_num) (by norm_num), Real.log_pow, Real.log_pow, Real.log_pow] at h
  linear_combination (1 / 2) * h

/-- the values of a coordinate that `ll_dirichlet` is meant for: a natural number, or any real
    `≥ 5` (where `log_beta` uses the Stirling sum and the gap vanishes). -/
def CountLike (a : ℝ) : Prop := (∃ k : ℕ, a = k) ∨ 5 ≤ a

theorem countLike_natCast (k : ℕ) : CountLike (k : ℝ) := Or.inl ⟨k, rfl⟩

theorem CountLike.zero : CountLike 0 := Or.inl ⟨0, Nat.cast_zero.symm⟩

theorem CountLike.nonneg {a : ℝ} (h : CountLike a) : 0 ≤ a := by
  rcases h with ⟨k, rfl⟩ | h
  · exact Nat.cast_nonneg k
  · exact (Nat.ofNat_nonneg 5).trans h

theorem CountLike.one_le {a : ℝ} (h : CountLike a) (h0 : a ≠ 0) : 1 ≤ a := by
  rcases h with ⟨k, rfl⟩ | h
  · exact Nat.one_le_cast.mpr (Nat.pos_of_ne_zero fun e => h0 (by rw [e, Nat.cast_zero]))
  · exact Nat.one_le_ofNat.trans h

theorem CountLike.thrAgree {a : ℝ} (h : CountLike a) : ThrAgree a := by
  unfold ThrAgree
  by_cases h0 : a = 0
  · subst h0; norm_num
  · have := h.one_le h0
    exact iff_of_true (lt_of_lt_of_le (by norm_num) (one_le_mul_of_one_le_of_one_le this this))
      (lt_of_lt_of_le (by norm_num) this)

theorem CountLike.add {a b : ℝ} (ha : CountLike a) (hb : CountLike b) : CountLike (a + b) := by
  rcases ha with ⟨k, rfl⟩ | ha
  · rcases hb with ⟨m, rfl⟩ | hb
    · exact Or.inl ⟨k + m, (Nat.cast_add k m).symm⟩
    · exact Or.inr (le_add_of_nonneg_of_le (Nat.cast_nonneg k) hb)
  · exact Or.inr (le_add_of_le_of_nonneg ha hb.nonneg)

/-- one step along the natural numbers: `betaGap_succ_lt` while the loop runs, `0 ≤ gap 4` across
    the switch, and `gap = 0` from `5` on. -/
theorem betaGap_succ_le (pi : ℝ) (hpi : 3.1415 < pi) (k : ℕ) (hk : 1 ≤ k) :
    betaGap pi ((k + 1 : ℕ) : ℝ) ≤ betaGap pi (k : ℝ) := by
  have hp0 : 0 < pi := lt_trans (by norm_num) hpi
  rcases Nat.lt_or_ge (k + 1) 5 with h | h
  · exact (betaGap_succ_lt pi hp0 k hk h).le
  · rw [betaGap_of_five_le pi _ hp0 (by exact_mod_cast h)]
    rcases Nat.lt_or_ge k 5 with h4 | h4
    · obtain rfl : k = 4 := by omega
      exact_mod_cast betaGap_four_nonneg pi hpi
    · rw [betaGap_of_five_le pi _ hp0 (by exact_mod_cast h4)]

theorem betaGap_nat_antitone (pi : ℝ) (hpi : 3.1415 < pi) {k m : ℕ} (hk : 1 ≤ k) (hkm : k ≤ m) :
    betaGap pi (m : ℝ) ≤ betaGap pi (k : ℝ) :=
  antitoneOn_nat_Ici_of_succ_le (f := fun n : ℕ => betaGap pi (n : ℝ)) (k := 1)
    (fun n hn => betaGap_succ_le pi hpi n hn) hk (hk.trans hkm) hkm

theorem betaGap_nonneg_of_countLike (pi : ℝ) (hpi : 3.1415 < pi) {a : ℝ} (ha : CountLike a)
    (h0 : a ≠ 0) : 0 ≤ betaGap pi a := by
  have hp0 : 0 < pi := lt_trans (by norm_num) hpi
  have h1 := ha.one_le h0
  rcases ha with ⟨k, rfl⟩ | ha
  · -- compare with the natural number `k + 5`, where the gap is `0`
    have := betaGap_nat_antitone pi hpi (k := k) (m := k + 5) (by exact_mod_cast h1)
      (k.le_add_right 5)
    rwa [betaGap_of_five_le pi _ hp0 (by exact_mod_cast Nat.le_add_left 5 k)] at this
  · rw [betaGap_of_five_le pi a hp0 ha]

theorem betaGap_antitone (pi : ℝ) (hpi : 3.1415 < pi) {a b : ℝ} (ha : CountLike a)
    (hb : CountLike b) (ha0 : a ≠ 0) (hab : a ≤ b) : betaGap pi b ≤ betaGap pi a := by
  have hp0 : 0 < pi := lt_trans (by norm_num) hpi
  have h1 := ha.one_le ha0
  rcases hb with ⟨m, rfl⟩ | hb
  · rcases ha with ⟨k, rfl⟩ | ha
    · exact betaGap_nat_antitone pi hpi (by exact_mod_cast h1) (by exact_mod_cast hab)
    · rw [betaGap_of_five_le pi _ hp0 ha, betaGap_of_five_le pi _ hp0 (ha.trans hab)]
  · rw [betaGap_of_five_le pi b hp0 hb]
    exact betaGap_nonneg_of_countLike pi hpi ha ha0

theorem selfGap_of_countLike (pi : ℝ) {a : ℝ} (ha : CountLike a) (h0 : a ≠ 0) :
    selfGap pi a = betaGap pi a :=
  if_pos (lt_of_lt_of_le (by norm_num) (ha.one_le h0))

theorem selfGap_zero (pi : ℝ) : selfGap pi 0 = 0 :=
  if_neg (by norm_num)

theorem selfGap_nonneg (pi : ℝ) (hpi : 3.1415 < pi) {a : ℝ} (ha : CountLike a) :
    0 ≤ selfGap pi a := by
  by_cases h0 : a = 0
  · rw [h0, selfGap_zero]
  · rw [selfGap_of_countLike pi ha h0]
    exact betaGap_nonneg_of_countLike pi hpi ha h0

/-- the heart of the matter: on count-like reals the gap of a coordinate is subadditive, because a
    non-zero summand already has a gap at least that of the sum. -/
theorem selfGap_add_le (pi : ℝ) (hpi : 3.1415 < pi) {a b : ℝ} (ha : CountLike a)
    (hb : CountLike b) : selfGap pi (a + b) ≤ selfGap pi a + selfGap pi b := by
  by_cases h0 : a = 0
  · rw [h0, zero_add, selfGap_zero, zero_add]
  · have hab : a + b ≠ 0 :=
      (add_pos_of_pos_of_nonneg (one_pos.trans_le (ha.one_le h0)) hb.nonneg).ne'
    rw [selfGap_of_countLike pi (ha.add hb) hab, selfGap_of_countLike pi ha h0]
    exact (betaGap_antitone pi hpi ha (ha.add hb) h0 (le_add_of_nonneg_right hb.nonneg)).trans
      (le_add_of_nonneg_right (selfGap_nonneg pi hpi hb))

/-- **zero on identical arguments, for count vectors**: if every coordinate is a natural number
    or a real `≥ 5`, then `ll_dirichlet d d = 0`.  The sum under the root is `≤ 0` — strictly
    negative in general, e.g. for `d = (1, 1)` — and it is the clamp `max(0, ·)` that yields `0`. -/
theorem llDirichlet_self_of_countLike (pi big : ℝ) (hpi : 3.1415 < pi) (d : List ℝ)
    (hd : ∀ a ∈ d, CountLike a) : llDirichlet realT pi big d d = 0 := by
  by_cases hn : sumL d = 0
  · exact llDirichlet_zero_zero pi big d d hn hn
  · have hs : CountLike (sumL d) :=
      sumL_eq_sum d ▸ List.sum_induction _ (fun _ _ => CountLike.add) .zero hd
    -- the gap at the total is at most the sum of the gaps of the coordinates
    have h3 := List.le_sum_of_subadditive_on_pred _ CountLike (selfGap_zero pi).le .zero
      (fun _ _ => selfGap_add_le pi hpi) (fun _ _ => CountLike.add) d hd
    rw [← sumL_eq_sum, ← sumL_eq_sum, selfGap_of_countLike pi hs hn] at h3
    rw [llDirichlet_self_eq pi big d (fun a ha => (hd a ha).thrAgree) hn]
    have hpos : 0 < sumL d := lt_of_le_of_ne hs.nonneg (Ne.symm hn)
    have hv : 2 / sumL d * (betaGap pi (sumL d) - sumL (d.map (selfGap pi))) ≤ 0 :=
      mul_nonpos_of_nonneg_of_nonpos (div_nonneg zero_le_two hpos.le) (sub_nonpos.mpr h3)
    rw [max_eq_left hv, Real.sqrt_zero]

/-- in particular for every vector of natural numbers, with the true `π`. -/
theorem llDirichlet_self_nat (big : ℝ) (l : List ℕ) :
    llDirichlet realT Real.pi big (l.map (Nat.cast : ℕ → ℝ)) (l.map (Nat.cast : ℕ → ℝ)) = 0 := by
  apply llDirichlet_self_of_countLike _ _ Real.pi_gt_d4
  intro a ha
  obtain ⟨k, _, rfl⟩ := List.mem_map.mp ha
  exact countLike_natCast k

/-- non-vacuity: a concrete count vector (with a zero, small and large counts). -/
example : llDirichlet realT Real.pi (10 ^ 8) [2, 0, 1, 7] [2, 0, 1, 7] = 0 := by
  have := llDirichlet_self_nat (10 ^ 8) [2, 0, 1, 7]
  simpa only [List.map_cons, List.map_nil, Nat.cast_ofNat, Nat.cast_zero, Nat.cast_one] using this

/-- for `d = (1, 1)` the quantity under the root of `ll_dirichlet d d` is strictly negative before
    the clamp (`≈ -0.0078`): without `max(0, ·)` the code would return `sqrt` of a negative number
    on identical count vectors. -/
theorem llDirichlet_self_radicand_neg (pi : ℝ) (hpi : 3.1415 < pi) :
    2 / sumL ([1, 1] : List ℝ)
      * (betaGap pi (sumL ([1, 1] : List ℝ)) - sumL (([1, 1] : List ℝ).map (selfGap pi))) < 0 := by
  have h1 : CountLike 1 := Or.inl ⟨1, Nat.cast_one.symm⟩
  have hg : selfGap pi 1 = betaGap pi 1 := selfGap_of_countLike pi h1 one_ne_zero
  have c12 := betaGap_succ_lt pi (lt_trans (by norm_num) hpi) 1 le_rfl (by norm_num)
  have c1 := betaGap_nonneg_of_countLike pi hpi h1 one_ne_zero
  simp only [List.map_cons, List.map_nil, sumL_cons, sumL_nil, hg, add_zero,
    show (1 : ℝ) + 1 = 2 by norm_num]
  norm_num at c12
  -- `gap 2 - 2 gap 1 = (gap 2 - gap 1) - gap 1`, with `gap 2 < gap 1` and `gap 1 ≥ 0`
  linear_combination c12 + c1

/-- non-vacuity of the remaining implications: the conventions for empty count vectors. -/
example : llDirichlet realT Real.pi (10 ^ 8) [0, 0] [2, 1] = 10 ^ 8
    ∧ llDirichlet realT Real.pi (10 ^ 8) [0, 0] [0, 0] = 0
    ∧ 0 ≤ llDirichlet realT Real.pi (10 ^ 8) [3, 1] [2, 5] := by
  refine ⟨?_, ?_, llDirichlet_nonneg _ _ (by norm_num) _ _⟩
  · apply llDirichlet_zero_left
    · simp only [sumL_cons, sumL_nil]; norm_num
    · simp only [sumL_cons, sumL_nil]; norm_num
  · apply llDirichlet_zero_zero <;> (simp only [sumL_cons, sumL_nil]; norm_num)

end C12
end Umap
