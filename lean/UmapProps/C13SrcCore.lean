/-
  C13SrcCore — the merge helpers generated from the source text of umap/sparse.py
  (`Generated/SparseSrc.lean`, namespace `Umap.SrcSparse`) are EQUAL to the hand-written model
  `Umap.Sparse` on canonical CSR rows: `coreSpec : SparseSrcSpec.CoreSpec α`.

  Generality: every theorem here holds for ANY scalar type `α` (the unbundled instance list of
  `SparseSrcSpec.lean`, no algebraic law used) — hence also for the executed `Float` instance.
  Each tie stands under the operations its kernel uses (the comparison with `0` throughout; `sparse_sum`: `+`;
  `sparse_diff`: also `-a`; `sparse_mul`: `*`); `coreSpec` collects them under the whole list.
  The only hypotheses are the canonical-row facts `Canon ind data`
  (`ind.length = data.length ∧ ind.Pairwise (· < ·)`).

  * `sparseSum_src`, `sparseDiff_src`, `sparseMul_src` : the fuel-bounded two-pointer while loops with
    pre-allocated buffers compute `unpack (model merge)`.  The loops fold the store over the model's merge
    (`SparseSrcLemmasS1.whileN_merge`, `whileN_tail`: no sortedness, no capacity); the stores fill the
    buffers with that merge (`foldl_store_unpack`) because the buffers are long enough: the model's merge
    never emits more cells than `unionSize` (resp. `interSize`; `C13.length_merge_le_unionSize`, `…_interSize`)
    = the length of `arr_union` (resp. `arr_intersect`) — the only place where sortedness is used.
  * the sort + adjacent-comparison index-array helpers `arr_union` / `arr_intersect` have the model's `unionSize` /
    `interSize` many entries on strictly increasing inputs, and the model's results are canonical again.
-/
import UmapModel.Sparse
import Generated.SparseSrc
import UmapProofs.SparseSrcPack
import UmapProofs.SparseSrcLemmasS1

namespace Umap
namespace C13SrcCore
open Sparse SparseSrcSpec SparseSrcLemmasS1

section sizes
variable {α : Type} [OfNat α 1]

theorem unionSize_pack (i1 : List Nat) (d1 : List α) (i2 : List Nat) (d2 : List α)
    (h1 : Canon i1 d1) (h2 : Canon i2 d2) :
    unionSize (pack i1 d1) (pack i2 d2) = (i1.toFinset ∪ i2.toFinset).card := by
  rw [unionSize_eq_card _ _ (sorted_pack h1) (sorted_pack h2), map_fst_pack h1.1, map_fst_pack h2.1]

theorem arrUnion_length_unionSize (i1 : List Nat) (d1 : List α) (i2 : List Nat) (d2 : List α)
    (h1 : Canon i1 d1) (h2 : Canon i2 d2) :
    (SrcSparse.arrUnion i1 i2).length = unionSize (pack i1 d1) (pack i2 d2) :=
  (arrUnion_length i1 i2 h1.nodup h2.nodup).trans (unionSize_pack i1 d1 i2 d2 h1 h2).symm

theorem arrIntersect_length_interSize (i1 : List Nat) (d1 : List α) (i2 : List Nat) (d2 : List α)
    (h1 : Canon i1 d1) (h2 : Canon i2 d2) :
    (SrcSparse.arrIntersect i1 i2).length = interSize (pack i1 d1) (pack i2 d2) := by
  -- both sides are what inclusion–exclusion leaves of `|i1| + |i2|` after the size of the union
  have ha := arrIntersect_length_add i1 i2
  rw [arrUnique_length, List.toFinset_append, ← unionSize_pack i1 d1 i2 d2 h1 h2, ← length_pack h1.1,
    ← length_pack h2.1, ← C13.interSize_add_unionSize] at ha
  exact Nat.add_right_cancel ha

end sizes

theorem arrIntersect_contains (i1 i2 : List Nat) (h1 : i1.Pairwise (· < ·)) (h2 : i2.Pairwise (· < ·))
    (k : Nat) :
    (SrcSparse.arrIntersect i1 i2).contains k = (i1.contains k && i2.contains k) := by
  rw [Bool.eq_iff_iff]
  simp only [List.contains_iff_mem, Bool.and_eq_true]
  exact mem_arrIntersect i1 i2 (h1.imp (fun h => Nat.ne_of_lt h)) (h2.imp (fun h => Nat.ne_of_lt h)) k

theorem merge_canon {α : Type} (f : α → α → Option α) (g1 g2 : α → Option α)
    (i1 : List Nat) (d1 : List α) (i2 : List Nat) (d2 : List α)
    (h1 : Canon i1 d1) (h2 : Canon i2 d2) :
    Canon (unpack (merge f g1 g2 (pack i1 d1) (pack i2 d2))).1
      (unpack (merge f g1 g2 (pack i1 d1) (pack i2 d2))).2 :=
  ⟨by simp only [unpack, List.length_map], C13.merge_sorted _ _ _ _ _ (sorted_pack h1) (sorted_pack h2)⟩

section merges
variable {α : Type} [LE α] [DecidableLE α] [OfNat α 0]

section
variable [Add α]

theorem sparseSum_canon (i1 : List Nat) (d1 : List α) (i2 : List Nat) (d2 : List α)
    (h1 : Canon i1 d1) (h2 : Canon i2 d2) :
    Canon (sparseSum (pack i1 d1) (pack i2 d2) |> unpack).1 (sparseSum (pack i1 d1) (pack i2 d2) |> unpack).2 :=
  merge_canon _ _ _ i1 d1 i2 d2 h1 h2

variable [Neg α] in
theorem sparseDiff_canon (i1 : List Nat) (d1 : List α) (i2 : List Nat) (d2 : List α)
    (h1 : Canon i1 d1) (h2 : Canon i2 d2) :
    Canon (sparseDiff (pack i1 d1) (pack i2 d2) |> unpack).1 (sparseDiff (pack i1 d1) (pack i2 d2) |> unpack).2 := by
  unfold sparseDiff
  rw [← pack_map i2 d2 (fun a => -a)]
  exact sparseSum_canon i1 d1 i2 _ h1 (h2.map _)

variable [OfNat α 1] -- the capacity of the buffers is a `unionSize` / `interSize`

theorem sparseSum_src (i1 : List Nat) (d1 : List α) (i2 : List Nat) (d2 : List α)
    (h1 : Canon i1 d1) (h2 : Canon i2 d2) :
    SrcSparse.sparseSum i1 d1 i2 d2 = unpack (sparseSum (pack i1 d1) (pack i2 d2)) := by
  have hcap : (sparseSum (pack i1 d1) (pack i2 d2)).length ≤ (SrcSparse.arrUnion i1 i2).length := by
    rw [arrUnion_length_unionSize i1 d1 i2 d2 h1 h2]
    exact C13.length_merge_le_unionSize _ _ _ _ _
  -- `delta` and `iota := false` keep the loop body's `match (if …) with …` as written: `unfold` turns each
  -- such match into projections of the `if`, one copy per bound variable, and the body grows many times over
  delta SrcSparse.sparseSum
  dsimp (config := {iota := false, proj := false}) only []
  -- one `split` per translated `let (…) := whileN …`: it names the loop's result and keeps the equation
  split
  rename_i a' b' ri1 rd1 nnz1 hs1
  split
  rename_i ri2 rd2 nnz2 a'' hs2
  split
  rename_i ri3 rd3 nnz3 b'' hs3
  have H1 := whileN_merge i1 d1 i2 d2 (0:α) (fun a b => keepNZ (a + b)) keepNZ keepNZ store h1.1 h2.1
    ⟨fun _ => rfl, ?hE, ?hL, ?hG⟩ _ _ _ _ hs1 (Nat.lt_succ_self _)
  -- in each branch the source stores the value unless it is zero, which is `store` folded over `cell j (keepNZ v)`
  case hE =>
    intro s e
    rw [if_pos (beq_iff_eq.2 e)]
    unfold keepNZ isZ
    cases eqV (d1.getD s.1 0 + d2.getD s.2.1 0) 0 <;> rfl
  case hL =>
    intro s e e'
    rw [if_neg (mt beq_iff_eq.1 e), if_pos e']
    unfold keepNZ isZ
    cases eqV (d1.getD s.1 0) 0 <;> rfl
  case hG =>
    intro s e e'
    rw [if_neg (mt beq_iff_eq.1 e), if_neg e']
    unfold keepNZ isZ
    cases eqV (d2.getD s.2.1 0) 0 <;> rfl
  have H2 := whileN_tail i1 d1 (0:α) keepNZ store h1.1 (fun _ => rfl) ?hb1 _ _ hs2
    (Nat.lt_succ_of_le (Nat.sub_le _ _))
  case hb1 => intro s; unfold keepNZ isZ; cases eqV (d1.getD s.2.2.2 0) 0 <;> rfl
  have H3 := whileN_tail i2 d2 (0:α) keepNZ store h2.1 (fun _ => rfl) ?hb2 _ _ hs3
    (Nat.lt_succ_of_le (Nat.sub_le _ _))
  case hb2 => intro s; unfold keepNZ isZ; cases eqV (d2.getD s.2.2.2 0) 0 <;> rfl
  rw [List.drop_zero, List.drop_zero, ← H2, ← H3] at H1
  exact foldl_store_unpack hcap List.length_replicate.symm H1

variable [Neg α] in
theorem sparseDiff_src (i1 : List Nat) (d1 : List α) (i2 : List Nat) (d2 : List α)
    (h1 : Canon i1 d1) (h2 : Canon i2 d2) :
    SrcSparse.sparseDiff i1 d1 i2 d2 = unpack (sparseDiff (pack i1 d1) (pack i2 d2)) := by
  unfold SrcSparse.sparseDiff sparseDiff
  rw [sparseSum_src i1 d1 i2 _ h1 (h2.map _), pack_map]

end

variable [Mul α] [OfNat α 1] in
theorem sparseMul_src (i1 : List Nat) (d1 : List α) (i2 : List Nat) (d2 : List α)
    (h1 : Canon i1 d1) (h2 : Canon i2 d2) :
    SrcSparse.sparseMul i1 d1 i2 d2 = unpack (sparseMul (pack i1 d1) (pack i2 d2)) := by
  have hcap : (sparseMul (pack i1 d1) (pack i2 d2)).length ≤ (SrcSparse.arrIntersect i1 i2).length := by
    rw [arrIntersect_length_interSize i1 d1 i2 d2 h1 h2]
    exact C13.length_merge_le_interSize _ _ _
  delta SrcSparse.sparseMul
  dsimp (config := {iota := false, proj := false}) only []
  split
  rename_i a' b' ri1 rd1 nnz1 hs1
  have H1 := whileN_merge_inner i1 d1 i2 d2 (0:α) (fun a b => keepNZ (a * b)) store h1.1 h2.1
    ⟨fun _ => rfl, ?hE, ?hL, ?hG⟩ _ _ _ _ hs1 (Nat.lt_succ_self _)
  case hE =>
    intro s e
    rw [if_pos (beq_iff_eq.2 e)]
    unfold keepNZ isZ
    cases eqV (d1.getD s.1 0 * d2.getD s.2.1 0) 0 <;> rfl
  case hL => intro s e e'; rw [if_neg (mt beq_iff_eq.1 e), if_pos e']; rfl
  case hG => intro s e e'; rw [if_neg (mt beq_iff_eq.1 e), if_neg e']; rfl
  rw [List.drop_zero, List.drop_zero] at H1
  exact foldl_store_unpack hcap List.length_replicate.symm H1

end merges

section generic
variable {α : Type} [Add α] [Sub α] [Mul α] [Div α] [Neg α] [LT α] [LE α]
  [DecidableLT α] [DecidableLE α] [OfNat α 0] [OfNat α 1] [NatCast α] [IntCast α]

-- every theorem of this section carries the whole instance list of `CoreSpec`, used or not
set_option linter.unusedSectionVars false

theorem pack_map_snd (ind : List Nat) (data : List α) (h : Canon ind data) :
    (pack ind data).map (·.2) = data :=
  vals_pack h.1

/-- the translated merge helpers of umap/sparse.py agree with the model on canonical rows, for every scalar type -/
theorem coreSpec : SparseSrcSpec.CoreSpec α where
  sum := sparseSum_src
  diff := sparseDiff_src
  mul := sparseMul_src
  unionLen := arrUnion_length_unionSize
  interLen := arrIntersect_length_interSize
  interMem := arrIntersect_contains
  sumCanon := sparseSum_canon
  diffCanon := sparseDiff_canon

end generic
end C13SrcCore
end Umap
