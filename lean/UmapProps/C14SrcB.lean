/-
  C14SrcB — the machine-translated gradient kernels of umap/distances.py (`Umap.Src`) equal the hand-written model
  the C14 theorems are about (`Umap.Grad`).

  Any scalar type (no algebraic law, so the executed `Float` instance is covered): `cosineGrad`, `correlationGrad`,
  `symmetricKlGrad`, `haversineGrad` (`eps` is the literal `1 / 1000000`), `sphericalGaussianEnergyGrad` (the source is
  total, the model `Option`-valued: stated for 3-vectors, `…_model_none` for the rest), `hellingerGrad_src_generic`
  (the source writes `max(v, 0)`, the model `maxV 0 v`: under `∀ v, maxV v 0 = maxV 0 v`).
  Ordered fields: `hellingerGrad` (that hypothesis is a theorem there), `hyperboloidGrad` (the source subtracts the
  products one by one from `s * t`, the model their sum; `eps` is the literal `1 / 100000000`),
  `diagonalGaussianEnergyGrad` (the source carries the dead `sigma_12 = 0` cross terms).
-/
import UmapModel.Metrics
import UmapModel.Grad
import Generated.DistSrc
import UmapProofs.SrcLemmas
import UmapProofs.Basic

set_option linter.unusedSectionVars false -- the `_src` statements

namespace Umap

namespace C14SrcB
open SrcLemmas

section generic
variable {α : Type} [Add α] [Sub α] [Mul α] [Div α] [Neg α] [LT α] [LE α]
  [DecidableLT α] [DecidableLE α] [OfNat α 0] [OfNat α 1] [NatCast α]

omit [Add α] [Sub α] [Div α] [Neg α] [LT α] [LE α] [DecidableLT α] [DecidableLE α] [OfNat α 0]
  [OfNat α 1] [NatCast α] in
theorem sq_fun : (Src.sq : α → α) = fun a => a * a := rfl

theorem cosineGrad_src (T : Transc α) (x y : List α) (h : x.length = y.length) :
    Src.cosineGrad T x y = Grad.cosineGrad T x y := by
  simp only [Src.cosineGrad, Src.sq, Src.cube, foldl_add_triple, Grad.cosineGrad, Metrics.dot,
    zip_eq_map_range x y 0 0 rfl h.symm, zip_eq_map_range x x 0 0 rfl rfl,
    zip_eq_map_range y y 0 0 h.symm h.symm, map_eq_map_range x 0 rfl, map_eq_map_range y 0 h.symm,
    List.zipWith_map_left, List.zipWith_map_right, List.zipWith_self, List.map_map,
    Function.comp_def, sumL, List.foldl_map, List.map_const', List.length_range, Prod.mk.eta]

theorem correlationGrad_src (T : Transc α) (x y : List α) (h : x.length = y.length) :
    Src.correlationGrad T x y = Grad.correlationGrad T x y := by
  simp only [Src.correlationGrad, Src.sq, foldl_add_pair, foldl_add_triple, Grad.correlationGrad, Metrics.mean,
    Metrics.dot, List.zip_map', Prod.mk.eta, foldl_eq_foldl_range x 0 rfl, foldl_eq_foldl_range y 0 h.symm,
    map_eq_map_range x 0 rfl, map_eq_map_range y 0 h.symm, sumL, List.foldl_map, List.map_map,
    Function.comp_def, List.zipWith_map_left, List.zipWith_map_right, List.zipWith_self,
    List.map_const', List.length_range]

theorem hellingerGrad_src_generic (hmax : ∀ v : α, maxV v 0 = maxV 0 v) (T : Transc α) (x y : List α)
    (h : x.length = y.length) :
    Src.hellingerGrad T x y = Grad.hellingerGrad T x y := by
  have l1 := foldl_set_acc (fun i => T.sqrt (x.getD i 0 * y.getD i 0)) 0
    (fun (st : α × α × α) i v => (st.1 + v, st.2.1 + x.getD i 0, st.2.2 + y.getD i 0))
    (List.replicate x.length 0) (0, 0, 0) (List.length_replicate ..)
  -- the model's `y.zip gt` is put into index form with `gt` left as it is, so that both sides read `gt.getD i 0`
  simp only [Src.hellingerGrad, Src.cube, l1, foldl_add_triple, foldl_set_replicate, hmax, Grad.hellingerGrad,
    Metrics.two, zip_eq_map_range x y 0 0 rfl h.symm, List.map_map, Function.comp_def,
    fun G : List α => zip_eq_map_range y G 0 0 h.symm, List.length_map,
    foldl_eq_foldl_range x 0 rfl, foldl_eq_foldl_range y 0 h.symm,
    map_eq_map_range x 0 rfl, sumL, List.foldl_map, List.map_const', List.length_range,
    Prod.mk.eta, ite_pair_snd]

theorem haversineGrad_src (T : Transc α) (pi : α) (x y : List α) (h : x.length = y.length) :
    Src.haversineGrad T pi x y = Grad.haversineGrad T pi (1 / ((1000000 : Nat) : α)) x y := by
  -- as `C12SrcC.haversine_src`
  rcases x with _ | ⟨x0, _ | ⟨x1, _ | ⟨x2, xs⟩⟩⟩
  · rfl
  · rfl
  · obtain ⟨y0, y1, rfl⟩ := List.length_eq_two.mp h.symm
    rfl
  · rfl

attribute [local congr] map_range_congr foldl_range_congr in
theorem symmetricKlGrad_src (T : Transc α) (z : α) (x y : List α) (h : x.length = y.length) :
    Src.symmetricKlGrad T x y z = Grad.symmetricKlGrad T z x y := by
  simp only [Src.symmetricKlGrad, foldl_add_pair, Grad.symmetricKlGrad, Metrics.symmetricKl, Metrics.two,
    zip_eq_map_range x y 0 0 rfl h.symm, map_eq_map_range x 0 rfl, map_eq_map_range y 0 h.symm,
    List.zip_map', sumL, List.foldl_map, List.map_map, Function.comp_def,
    List.zipWith_map_left, List.zipWith_map_right, List.zipWith_self]
  -- the second loop reads `px[i]`, `py[i]`, by now in index form, at its own index
  simp (config := {contextual := true}) only [getD_map_range]

theorem sphericalGaussianEnergyGrad_src (T : Transc α) (pi : α) (x y : List α)
    (hx : x.length = 3) (hy : y.length = 3) :
    some (Src.sphericalGaussianEnergyGrad T pi x y) = Grad.sphericalGaussianEnergyGrad T pi x y := by
  obtain ⟨x0, x1, x2, rfl⟩ := List.length_eq_three.mp hx
  obtain ⟨y0, y1, y2, rfl⟩ := List.length_eq_three.mp hy
  rfl

theorem sphericalGaussianEnergyGrad_model_none (T : Transc α) (pi : α) (x y : List α)
    (hxy : ¬ (x.length = 3 ∧ y.length = 3)) :
    Grad.sphericalGaussianEnergyGrad T pi x y = none := by
  unfold Grad.sphericalGaussianEnergyGrad
  split
  · exact absurd ⟨rfl, rfl⟩ hxy
  · rfl

end generic

section field
variable {K : Type} [Field K] [LinearOrder K] [IsStrictOrderedRing K]

theorem hellingerGrad_src (T : Transc K) (x y : List K) (h : x.length = y.length) :
    Src.hellingerGrad T x y = Grad.hellingerGrad T x y :=
  hellingerGrad_src_generic (fun v => maxV_comm v 0) T x y h

theorem hyperboloidGrad_src (T : Transc K) (x y : List K) (h : x.length = y.length) :
    Src.hyperboloidGrad T x y = Grad.hyperboloidGrad T (1 / ((100000000 : Nat) : K)) x y := by
  simp only [Src.hyperboloidGrad, Src.sq, foldl_set_replicate, foldl_sub_eq_sub_sumL, Grad.hyperboloidGrad, Metrics.dot,
    zip_eq_map_range x y 0 0 rfl h.symm, zip_eq_map_range x x 0 0 rfl rfl,
    zip_eq_map_range y y 0 0 h.symm h.symm, map_eq_map_range x 0 rfl, map_eq_map_range y 0 h.symm,
    List.map_map, Function.comp_def]

theorem diagonalGaussianEnergyGrad_src (T : Transc K) (pi : K) (x y : List K)
    (hx : x.length = 4) (hy : y.length = 4) :
    some (Src.diagonalGaussianEnergyGrad T pi x y) = Grad.diagonalGaussianEnergyGrad T pi x y := by
  obtain ⟨x0, x1, x2, x3, rfl⟩ := List.length_eq_four.mp hx
  obtain ⟨y0, y1, y2, y3, rfl⟩ := List.length_eq_four.mp hy
  -- `mul_zero … sub_zero`: the source carries the dead `sigma_12 = 0` cross terms
  simp only [Src.diagonalGaussianEnergyGrad, Grad.diagonalGaussianEnergyGrad, List.getD_cons_zero,
    List.getD_cons_succ, Src.sq, Metrics.two, List.replicate, List.set_cons_zero, List.set_cons_succ,
    mul_zero, zero_mul, sub_zero, apply_ite some]

end field
end C14SrcB
end Umap
