/-
  C14SrcA — the gradient kernels generated from the source text of umap/distances.py (`Generated/DistSrc.lean`,
  namespace `Umap.Src`) equal the hand-written model `Umap.Grad` the C14 property theorems are about, for all vectors
  of all lengths (under the shape facts the Python code relies on) and any scalar type.  `chebyshevGrad_src`,
  `mahalanobisGrad_src`, `canberraGrad_src` are stated over an ordered field; they are instances of their `_generic`
  forms, of which only `canberraGrad_src_generic` has a hypothesis (`h0 : ∀ a, a + 0 = a`: the source leaves
  `result` untouched when the denominator is not positive, the model adds a `0` term).
-/
import UmapModel.Metrics
import UmapModel.Grad
import Generated.DistSrc
import UmapProofs.SrcLemmas
import UmapProofs.Basic

set_option linter.unusedSectionVars false -- the `_src` statements

namespace Umap
namespace C14SrcA
open SrcLemmas

/-- the model's running `(counter, argmax, max)`: the counter is the loop index, the rest the source's
    `(max, argmax)` swapped -/
theorem argmax_counter {α : Type} [LT α] [DecidableLT α] [OfNat α 0] (A : Nat → α) (k : Nat) :
    (List.range k).foldl (fun (acc : Nat × Nat × α) i =>
        if acc.2.2 < A i then (acc.1 + 1, acc.1, A i) else (acc.1 + 1, acc.2.1, acc.2.2)) (0, 0, 0)
      = (k, ((List.range k).foldl (fun (st : α × Nat) i => if st.1 < A i then (A i, i) else st)
          (0, 0)).swap) := by
  induction k with
  | zero => rfl
  | succ k ih =>
    simp only [List.range_succ, List.foldl_append, List.foldl_cons, List.foldl_nil, ih]
    generalize List.foldl _ ((0 : α), 0) (List.range k) = R
    obtain ⟨m, mi⟩ := R
    dsimp only [Prod.swap]
    split <;> rfl

section generic
variable {α : Type} [Add α] [Sub α] [Mul α] [Div α] [Neg α] [LT α] [LE α]
  [DecidableLT α] [DecidableLE α] [OfNat α 0] [OfNat α 1] [NatCast α]

theorem euclideanGrad_src (T : Transc α) (x y : List α) (h : x.length = y.length) :
    Src.euclideanGrad T x y = Grad.euclideanGrad T (1 / ((1000000 : Nat) : α)) x y := by
  simp only [Src.euclideanGrad, Grad.euclideanGrad, Metrics.euclidean, Metrics.diffs,
    zip_eq_map_range x y 0 0 rfl h.symm, zipWith_eq_map_range _ x y 0 0 rfl h.symm, List.map_map,
    Function.comp_def, sumL, List.foldl_map, Src.sq]

theorem standardisedEuclideanGrad_src (T : Transc α) (x y sigma : List α)
    (h : x.length = y.length) (hs : x.length = sigma.length) :
    Src.standardisedEuclideanGrad T x y sigma
      = Grad.seuclideanGrad T (1 / ((1000000 : Nat) : α)) sigma x y := by
  simp only [Src.standardisedEuclideanGrad, Grad.seuclideanGrad, Metrics.seuclidean, Metrics.diffs,
    zip_eq_map_range x y 0 0 rfl h.symm, zipWith_eq_map_range _ x y 0 0 rfl h.symm,
    map_eq_map_range sigma 0 hs.symm, List.map_map, map_range_zip _ sigma 0 hs.symm,
    List.zipWith_map_left, List.zipWith_map_right, List.zipWith_self,
    Function.comp_def, sumL, List.foldl_map, Src.sq]

theorem manhattanGrad_src (x y : List α) (h : x.length = y.length) :
    Src.manhattanGrad x y = Grad.manhattanGrad x y := by
  have l := foldl_pair (List.range x.length)
    (fun (r : α) (i : Nat) => r + absV (x.getD i 0 - y.getD i 0))
    (fun (g : List α) (i : Nat) => g.set i (signV (x.getD i 0 - y.getD i 0))) 0
    (List.replicate x.length 0)
  simp only [Src.manhattanGrad, l, foldl_set_replicate, Grad.manhattanGrad, Metrics.manhattan, Metrics.diffs,
    zip_eq_map_range x y 0 0 rfl h.symm, List.map_map, sumL, List.foldl_map, Function.comp_def]

theorem minkowskiGrad_src (T : Transc α) (x y : List α) (p : α) (h : x.length = y.length) :
    Src.minkowskiGrad T x y p = Grad.minkowskiGrad T p x y := by
  simp only [Src.minkowskiGrad, foldl_set_replicate, Grad.minkowskiGrad, Metrics.diffs,
    zip_eq_map_range x y 0 0 rfl h.symm, List.map_map, sumL, List.foldl_map, Function.comp_def]

theorem weightedMinkowskiGrad_src (T : Transc α) (x y w : List α) (p : α)
    (h : x.length = y.length) (hw : x.length = w.length) :
    Src.weightedMinkowskiGrad T x y w p = Grad.wminkowskiGrad T w p x y := by
  simp only [Src.weightedMinkowskiGrad, foldl_set_replicate, Grad.wminkowskiGrad, Metrics.diffs,
    zip_eq_map_range x y 0 0 rfl h.symm, List.map_map, map_range_zip _ w 0 hw.symm,
    sumL, List.foldl_map, Function.comp_def]

theorem brayCurtisGrad_src (x y : List α) (h : x.length = y.length) :
    Src.brayCurtisGrad x y = Grad.brayCurtisGrad x y := by
  simp only [Src.brayCurtisGrad, foldl_add_pair, Grad.brayCurtisGrad, zip_eq_map_range x y 0 0 rfl h.symm,
    zipWith_eq_map_range _ x y 0 0 rfl h.symm, map_eq_map_range x 0 rfl, List.map_map,
    List.zipWith_map_left, List.zipWith_map_right, List.zipWith_self, Function.comp_def, sumL,
    List.foldl_map, List.map_const', List.length_range, Prod.mk.eta]

theorem chebyshevGrad_src_generic (x y : List α)
    (h : x.length = y.length) :
    Src.chebyshevGrad x y = Grad.chebyshevGrad x y := by
  simp only [Src.chebyshevGrad, Grad.chebyshevGrad, Grad.argmaxAbs, Metrics.diffs,
    zip_eq_map_range x y 0 0 rfl h.symm, List.map_map, List.foldl_map, Function.comp_def,
    argmax_counter, Prod.mk.eta]
  generalize List.foldl _ ((0 : α), 0) (List.range x.length) = R
  obtain ⟨m, mi⟩ := R
  refine congrArg (m, ·) (List.ext_getElem ?_ fun j h1 _ => ?_)
  · rw [List.length_set, List.length_replicate, List.length_map, List.length_zipIdx, List.length_map,
      List.length_range]
  simp only [List.getElem_set, List.getElem_replicate, List.getElem_map, List.getElem_zipIdx,
    List.getElem_range, Nat.zero_add, Prod.swap]
  by_cases hm : mi = j
  · subst hm; simp only [if_true]
  · rw [if_neg hm, if_neg (Ne.symm hm)]

theorem mahalanobisGrad_src_generic (T : Transc α) (x y : List α)
    (vinv : List (List α)) (h : x.length = y.length)
    (hv : vinv.length = x.length ∧ ∀ r ∈ vinv, r.length = x.length) :
    Src.mahalanobisGrad T x y vinv
      = Grad.mahalanobisGrad T (1 / ((1000000 : Nat) : α)) vinv x y := by
  -- the inner loop adds the same terms to `tmp` and to cell `i` of `grad_tmp` …
  have li := fun (i : Nat) (d : List α) (g : List α) => foldl_pair (List.range x.length)
    (fun (t : α) j => t + (vinv.getD i []).getD j 0 * d.getD j 0)
    (fun (g : List α) j => g.set i (g.getD i 0 + (vinv.getD i []).getD j 0 * d.getD j 0)) 0 g
  have lslot := fun (i : Nat) (d : List α) (g : List α) => foldl_slot
    (fun j (r : α) => r + (vinv.getD i []).getD j 0 * d.getD j 0) (List.range x.length) i 0 g
  -- … so the outer loop updates every cell of a zero vector once
  have lo := fun (d : List α) => foldl_pair (List.range x.length)
    (fun (g : List α) i => g.set i ((List.range x.length).foldl
      (fun r j => r + (vinv.getD i []).getD j 0 * d.getD j 0) (g.getD i 0)))
    (fun (r : α) i => r + (List.range x.length).foldl
      (fun t j => t + (vinv.getD i []).getD j 0 * d.getD j 0) 0 * d.getD i 0)
    (List.replicate x.length 0) 0
  have lu := fun (d : List α) => foldl_update_replicate (fun i v => (List.range x.length).foldl
      (fun r j => r + (vinv.getD i []).getD j 0 * d.getD j 0) v) 0 0 x.length
  have hd : Metrics.diffs x y = (List.range x.length).map (fun i => x.getD i 0 - y.getD i 0) := by
    simp only [Metrics.diffs, zip_eq_map_range x y 0 0 rfl h.symm, List.map_map, Function.comp_def]
  simp only [Src.mahalanobisGrad, foldl_set_replicate, li, lslot, lo, lu, Grad.mahalanobisGrad, hd]
  generalize hD : (List.range x.length).map (fun i => x.getD i 0 - y.getD i 0) = D
  have hDl : D.length = x.length := by rw [← hD, List.length_map, List.length_range]
  -- the model's `row · d`, in index form, for the rows `i < n`
  have hvd : vinv.map (fun row => sumL ((row.zip D).map (fun q => q.1 * q.2)))
      = (List.range x.length).map (fun i => (List.range x.length).foldl
          (fun r j => r + (vinv.getD i []).getD j 0 * D.getD j 0) 0) := by
    rw [map_eq_map_range vinv [] hv.1]
    refine map_range_congr fun i hi => ?_
    rw [zip_eq_map_range _ D 0 0 (hv.2 _ (getD_mem (hv.1 ▸ hi))) hDl]
    simp only [sumL, List.foldl_map]
  rw [hvd]
  simp only [map_range_zip _ D 0 hDl, List.map_map, sumL, List.foldl_map, Function.comp_def]

/-- `h0`: the source skips a coordinate with a zero denominator, the model adds `0`. -/
theorem canberraGrad_src_generic (h0 : ∀ a : α, a + 0 = a)
    (x y : List α) (h : x.length = y.length) :
    Src.canberraGrad x y = Grad.canberraGrad x y := by
  have l := foldl_pair_cond (List.range x.length)
    (fun i => 0 < absV (x.getD i 0) + absV (y.getD i 0))
    (fun (r : α) i => r + absV (x.getD i 0 - y.getD i 0) / (absV (x.getD i 0) + absV (y.getD i 0)))
    (fun (g : List α) i => g.set i
      (signV (x.getD i 0 - y.getD i 0) / (absV (x.getD i 0) + absV (y.getD i 0))
        - absV (x.getD i 0 - y.getD i 0) * signV (x.getD i 0)
          / ((absV (x.getD i 0) + absV (y.getD i 0)) * (absV (x.getD i 0) + absV (y.getD i 0)))))
    0 (List.replicate x.length 0)
  simp only [Src.canberraGrad, Src.sq, l, foldl_set_if, Grad.canberraGrad, Metrics.canberra,
    zip_eq_map_range x y 0 0 rfl h.symm, List.map_map, Function.comp_def, sumL, List.foldl_map, Prod.mk.eta]
  refine congrArg (·, _) (foldl_range_congr rfl fun s i _ => ?_)
  split_ifs
  exacts [rfl, (h0 s).symm]

end generic
section field
variable {K : Type} [Field K] [LinearOrder K] [IsStrictOrderedRing K]

theorem chebyshevGrad_src (x y : List K) (h : x.length = y.length) :
    Src.chebyshevGrad x y = Grad.chebyshevGrad x y :=
  chebyshevGrad_src_generic x y h

theorem mahalanobisGrad_src (T : Transc K) (x y : List K) (vinv : List (List K))
    (h : x.length = y.length)
    (hv : vinv.length = x.length ∧ ∀ r ∈ vinv, r.length = x.length) :
    Src.mahalanobisGrad T x y vinv
      = Grad.mahalanobisGrad T (1 / ((1000000 : Nat) : K)) vinv x y :=
  mahalanobisGrad_src_generic T x y vinv h hv

theorem canberraGrad_src (x y : List K) (h : x.length = y.length) :
    Src.canberraGrad x y = Grad.canberraGrad x y :=
  canberraGrad_src_generic add_zero x y h

end field

end C14SrcA
end Umap
