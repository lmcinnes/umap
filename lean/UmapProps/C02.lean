/-
  C02 — the fitted graph is a well-formed fuzzy union of the directed neighbourhoods.

  Model: `Umap.Graph.symmetrize r A` (umap_.py `fuzzy_simplicial_set`, the block
  `result = r * (result + transpose - prod) + (1 - r) * prod; eliminate_zeros`).
  Everything here holds over every linear ordered field (so over ℚ and ℝ at once).
-/
import UmapProofs.GraphLemmas

namespace Umap
namespace C02
open Graph

section
variable {K : Type} [Field K] [LinearOrder K] [IsStrictOrderedRing K]

theorem entry_formula (r : K) (A : Coo K) (i j : Nat) (v : K)
    (h : (i, j, v) ∈ symmetrize r A) :
    v = mix r (lookup A i j) (lookup A j i) ∧ v ≠ 0 :=
  (mem_symmetrize r A i j v).1 h

/-- the fitted graph is symmetric. -/
theorem symmetric (r : K) (A : Coo K) (i j : Nat) (v : K)
    (h : (i, j, v) ∈ symmetrize r A) : (j, i, v) ∈ symmetrize r A := by
  rw [mem_symmetrize] at h ⊢
  rwa [mix_comm]

/-- with a pure union (`r = 1`) the entry is at least the larger directed strength. -/
theorem mix_one_ge_max {a b : K} (ha0 : 0 ≤ a) (ha1 : a ≤ 1) (hb0 : 0 ≤ b) (hb1 : b ≤ 1) :
    max a b ≤ mix 1 a b :=
  max_le (le_mix_one_left ha1 hb0) (le_mix_one_right ha0 hb1)

/-- with a pure intersection (`r = 0`) it is at most the smaller one. -/
theorem mix_zero_le_min {a b : K} (ha0 : 0 ≤ a) (ha1 : a ≤ 1) (hb0 : 0 ≤ b) (hb1 : b ≤ 1) :
    mix 0 a b ≤ min a b :=
  mix_zero a b ▸ le_min (mul_le_of_le_one_right ha0 hb1) (mul_le_of_le_one_left hb0 ha1)

/-- and it is non-decreasing in `r`. -/
theorem mix_mono_r {r r' a b : K} (hrr : r ≤ r') (ha0 : 0 ≤ a) (ha1 : a ≤ 1) (hb0 : 0 ≤ b)
    (hb1 : b ≤ 1) : mix r a b ≤ mix r' a b := by
  rw [mix_eq, mix_eq]
  exact add_le_add_right (mul_le_mul_of_nonneg_right hrr (mix_gap_nonneg ha0 ha1 hb0 hb1)) _

/-- directed strengths are memberships: every position of `A` carries a value in `[0, 1]`
    (for a duplicate-free `A` it is enough that the stored values do: `C04.unitValued_of_stored`). -/
def UnitValued (A : Coo K) : Prop := ∀ i j, 0 ≤ lookup A i j ∧ lookup A i j ≤ 1

/--
  **C02 (graph clauses).** For every directed membership matrix `A` with strengths in `[0,1]`,
  every mix ratio `r ∈ [0,1]` and every stored entry `(i, j, v)` of the fitted graph:
  `v` is the blend of the two directed strengths, lies in `(0, 1]`, the mirrored entry is stored
  with the same value, and at least one of the two directed strengths is non-zero (so the edge
  joins a sample to one of its neighbours, in one direction or the other).
-/
theorem C02_graph_wellformed (r : K) (hr0 : 0 ≤ r) (hr1 : r ≤ 1) (A : Coo K) (hA : UnitValued A)
    (i j : Nat) (v : K) (h : (i, j, v) ∈ symmetrize r A) :
    v = mix r (lookup A i j) (lookup A j i)
    ∧ 0 < v ∧ v ≤ 1
    ∧ (j, i, v) ∈ symmetrize r A
    ∧ (lookup A i j ≠ 0 ∨ lookup A j i ≠ 0) := by
  obtain ⟨hv, hne⟩ := entry_formula r A i j v h
  obtain ⟨ha0, ha1⟩ := hA i j
  obtain ⟨hb0, hb1⟩ := hA j i
  have h0 : 0 ≤ v := hv ▸ mix_nonneg hr0 ha0 ha1 hb0 hb1
  have h1 : v ≤ 1 := hv ▸ mix_le_one hr1 ha0 ha1 hb0 hb1
  exact ⟨hv, lt_of_le_of_ne h0 (Ne.symm hne), h1, symmetric r A i j v h,
    support_of_mem_symmetrize h⟩

/-- the diagonal is empty when no sample is its own (non-zero) neighbour. -/
theorem C02_empty_diagonal (r : K) (A : Coo K) (hd : ∀ i, lookup A i i = 0) (i : Nat) (v : K) :
    (i, i, v) ∉ symmetrize r A :=
  fun h => (support_of_mem_symmetrize h).elim (· (hd i)) (· (hd i))

/-- **C02 (r-clauses).** `r = 1` ⇒ at least `max a b`; `r = 0` ⇒ at most `min a b`;
    non-decreasing in `r`. -/
theorem C02_mix_ratio_clauses {a b : K} (ha0 : 0 ≤ a) (ha1 : a ≤ 1) (hb0 : 0 ≤ b) (hb1 : b ≤ 1) :
    max a b ≤ mix 1 a b ∧ mix 0 a b ≤ min a b ∧ ∀ r r' : K, r ≤ r' → mix r a b ≤ mix r' a b :=
  ⟨mix_one_ge_max ha0 ha1 hb0 hb1, mix_zero_le_min ha0 ha1 hb0 hb1,
   fun _ _ h => mix_mono_r h ha0 ha1 hb0 hb1⟩

end

/-! ### non-vacuity: a concrete asymmetric graph over ℚ -/

def exA : Coo ℚ := [(0, 1, 1), (0, 2, 1/2), (1, 0, 1/4), (2, 1, 1)]

example : (0, 1, (1:ℚ)) ∈ symmetrize (1:ℚ) exA := by decide +kernel
example : (1, 0, (1:ℚ)) ∈ symmetrize (1:ℚ) exA := by decide +kernel
example : (2, 0, (1/2:ℚ)) ∈ symmetrize (1:ℚ) exA := by decide +kernel
example : (0, 1, (1/4:ℚ)) ∈ symmetrize (0:ℚ) exA := by decide +kernel

end C02
end Umap
