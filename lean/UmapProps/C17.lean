/-
  C17 — densMAP reduces to UMAP at zero weight and reports the defined local radii.
-/
import UmapProofs.Basic
import UmapModel.Sgd
import UmapModel.Radii

namespace Umap
namespace C17
open Sgd Radii

section Flag
variable {K : Type} [Field K] [LinearOrder K] [IsStrictOrderedRing K]

/-- with `dens_lambda = 0` or `dens_frac = 0` the density term is off in **every** epoch. -/
theorem flag_false_of_zero (densmap : Bool) (lambda frac : K) (N n : Nat) (hn : n < N)
    (h : lambda = 0 ∨ frac = 0) : densmapFlag densmap lambda frac n N = false := by
  unfold densmapFlag
  rcases h with rfl | rfl
  · rw [decide_eq_false (lt_irrefl 0), Bool.and_false, Bool.false_and]
  · -- `(n + 1) / N ≤ 1` in every epoch `n < N`
    have key : ((n + 1 : Nat) : K) / (N : K) ≤ 1 :=
      div_le_one_of_le₀ (Nat.mono_cast hn) (Nat.cast_nonneg N)
    rw [sub_zero, decide_eq_false (not_lt.2 key), Bool.and_false]

theorem flag_false_of_off (lambda frac : K) (N n : Nat) : densmapFlag false lambda frac n N = false :=
  rfl

end Flag

section Reduce
variable {K : Type} [Field K] [LinearOrder K] [IsStrictOrderedRing K] [Inhabited K]

theorem runEpochsDens_eq_of_flag_false (T : Transc K) (rnd : K → K) (P : Params K)
    (hd tl : Array Nat) (eps epns : Array K) (alpha0 : K) (N : Nat) (densmap : Bool)
    (lambda frac : K) (corf : Nat → State K → Nat → K → K)
    (h : ∀ n < N, densmapFlag densmap lambda frac n N = false) (s : State K) :
    runEpochsDens T rnd P hd tl eps epns alpha0 N densmap lambda frac corf s
      = runEpochs T rnd P hd tl eps epns alpha0 N s := by
  unfold runEpochsDens runEpochs
  refine List.foldl_ext _ _ _ fun s n hn => ?_
  rw [h n (List.mem_range.1 hn)]
  rfl

/--
  **C17 (reduction).** For every graph, initial layout, seed state, parameter set and epoch
  count: the densMAP epoch loop with `dens_lambda = 0` or `dens_frac = 0` is *the same function*
  as the plain UMAP epoch loop (same moves, same clocks, same random draws), whatever the
  density-term computation `corf` is.
-/
theorem run_densmap_zero_eq_plain (T : Transc K) (rnd : K → K) (P : Params K) (hd tl : Array Nat)
    (eps epns : Array K) (alpha0 : K) (N : Nat) (densmap : Bool) (lambda frac : K)
    (corf : Nat → State K → Nat → K → K) (h : lambda = 0 ∨ frac = 0) (s : State K) :
    runEpochsDens T rnd P hd tl eps epns alpha0 N densmap lambda frac corf s
      = runEpochs T rnd P hd tl eps epns alpha0 N s :=
  runEpochsDens_eq_of_flag_false T rnd P hd tl eps epns alpha0 N densmap lambda frac corf
    (fun n hn => flag_false_of_zero densmap lambda frac N n hn h) s

end Reduce

section Radius
variable {K : Type} [Field K] [LinearOrder K] [IsStrictOrderedRing K]

theorem accNum_eq (es : List (Edge K)) (i : Nat) : accNum es i = rowNum es i + colNum es i :=
  sumL_map_add es _ _

theorem accDen_eq (es : List (Edge K)) (i : Nat) : accDen es i = rowDen es i + colDen es i :=
  sumL_map_add es _ _

/--
  **C17 (radius).** On a symmetric edge list (each undirected edge listed in both directions, so
  column sums equal row sums) accumulating at both endpoints counts everything twice and the
  ratio is unchanged: the reported radius is `log(ε + Σ_k μ_ik d_ik² / Σ_k μ_ik)`, the logarithm
  of the membership-weighted mean squared distance to the sample's graph neighbours.
-/
theorem radius_double_count (T : Transc K) (eps : K) (es : List (Edge K)) (i : Nat)
    (hn : colNum es i = rowNum es i) (hd : colDen es i = rowDen es i) :
    radius T eps es i = T.log (eps + rowNum es i / rowDen es i) := by
  unfold radius
  rw [accNum_eq, accDen_eq, hn, hd, ← two_mul, ← two_mul, mul_div_mul_left _ _ two_ne_zero]

end Radius

-- the flag does switch on (epoch 9 of 10 with `dens_frac = 3/10`), and is off with either parameter zero
example : densmapFlag true (2 : ℚ) (3/10) 8 10 = true := by decide +kernel
example : densmapFlag true (0 : ℚ) (3/10) 8 10 = false := by decide +kernel
example : densmapFlag true (2 : ℚ) 0 9 10 = false := by decide +kernel

end C17
end Umap
