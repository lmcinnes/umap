/-
  C07More — further facts about the layout optimiser (C07, C04(c), C17).

  Model: `Umap.Sgd` (layouts.py `_optimize_layout_euclidean_single_epoch`,
  `_optimize_layout_generic_single_epoch`, `optimize_layout_euclidean/generic`;
  parametric_umap.py `get_graph_elements`).

  What an epoch leaves alone (a head vertex without an edge keeps its row and influences nothing
  else) for both kernels; the generic kernel's coefficients; parametric UMAP's edge replication;
  the per-write bounds with and without the density term.
-/
import UmapModel.Sgd
import UmapProps.C07Clocks

namespace Umap
namespace C07
open Sgd

/-! ### (C04 c) a head vertex that is the head of no edge keeps its row; (e) for the generic kernel -/

section Untouched
variable {α : Type} [Add α] [Sub α] [Mul α] [Div α] [Neg α] [LT α] [LE α]
  [DecidableLT α] [DecidableLE α] [OfNat α 0] [OfNat α 1] [NatCast α] [Inhabited α]

/--
  **C04(c).**  A head vertex `v` that is the head of no edge — and, in the only
  configuration in which a tail write lands in the head buffer (`aliased ∧ moveOther`), not the
  tail of any edge either — keeps its row, whatever it contains (NaN included: the statement is
  about the stored row, no arithmetic on it is performed), for every graph, clock state, seed,
  learning rate, rounding and number of epochs.
-/
theorem head_untouched (T : Transc α) (rnd : α → α) (P : Params α) (hd tl : Array Nat)
    (eps epns : Array α) (alpha0 : α) (N : Nat) (v : Nat)
    (hh : ∀ i < eps.size, hd[i]! ≠ v)
    (ht : P.aliased = true ∧ P.moveOther = true → ∀ i < eps.size, tl[i]! ≠ v) (s : State α) :
    (runEpochs T rnd P hd tl eps epns alpha0 N s).head[v]! = s.head[v]! :=
  loops_proj (π := fun t : State α => t.head[v]!)
    (fun n _ => edgeStep T rnd P hd tl eps epns (alphaAt alpha0 N n) n none) _
    (fun _ _ t i hi => edgeStep_blind (blind_head P _ _ v (hh i hi) (fun hc => ht hc i hi))
      (fun _ _ => rfl) (fun _ _ => rfl) t) N s

theorem head_untouched_dens (T : Transc α) (rnd : α → α) (P : Params α) (hd tl : Array Nat)
    (eps epns : Array α) (alpha0 : α) (N : Nat) (densmap : Bool) (lambda frac : α)
    (corf : Nat → State α → Nat → α → α) (v : Nat)
    (hh : ∀ i < eps.size, hd[i]! ≠ v)
    (ht : P.aliased = true ∧ P.moveOther = true → ∀ i < eps.size, tl[i]! ≠ v) (s : State α) :
    (runEpochsDens T rnd P hd tl eps epns alpha0 N densmap lambda frac corf s).head[v]!
      = s.head[v]! :=
  loops_proj (π := fun t : State α => t.head[v]!)
    (fun n t0 => edgeStep T rnd P hd tl eps epns (alphaAt alpha0 N n) n
      (if densmapFlag densmap lambda frac n N then some (corf n t0) else none)) _
    (fun _ _ t i hi => edgeStep_blind (blind_head P _ _ v (hh i hi) (fun hc => ht hc i hi))
      (fun _ _ => rfl) (fun _ _ => rfl) t) N s

/-- **(e), generic kernel.** With `move_other = False` the tail (reference) buffer is never
    written, for every output metric (any function at all), graph, seed and epoch count. -/
theorem gen_frozen_tail (T : Transc α) (rnd : α → α) (P : Params α) (hm : P.moveOther = false)
    (eps6 : α) (metric : Array α → Array α → α × Array α) (hd tl : Array Nat) (eps epns : Array α)
    (alpha0 : α) (N : Nat) (s : State α) :
    (genRunEpochs T rnd P eps6 metric hd tl eps epns alpha0 N s).tail = s.tail :=
  loops_proj (fun n _ => genEdgeStep T rnd P eps6 metric hd tl eps epns (alphaAt alpha0 N n) n) _
    (fun _ _ t _ _ => genEdgeStep_blind (blind_tail P hm _ _) (fun _ _ => rfl) (fun _ _ => rfl) t)
    N s

/-- **C04(c), generic kernel.** -/
theorem gen_head_untouched (T : Transc α) (rnd : α → α) (P : Params α) (eps6 : α)
    (metric : Array α → Array α → α × Array α) (hd tl : Array Nat)
    (eps epns : Array α) (alpha0 : α) (N : Nat) (v : Nat)
    (hh : ∀ i < eps.size, hd[i]! ≠ v)
    (ht : P.aliased = true ∧ P.moveOther = true → ∀ i < eps.size, tl[i]! ≠ v) (s : State α) :
    (genRunEpochs T rnd P eps6 metric hd tl eps epns alpha0 N s).head[v]! = s.head[v]! :=
  loops_proj (π := fun t : State α => t.head[v]!)
    (fun n _ => genEdgeStep T rnd P eps6 metric hd tl eps epns (alphaAt alpha0 N n) n) _
    (fun _ _ t i hi => genEdgeStep_blind (blind_head P _ _ v (hh i hi) (fun hc => ht hc i hi))
      (fun _ _ => rfl) (fun _ _ => rfl) t) N s

end Untouched

/-! ### (C04 c) an isolated new point never perturbs another point -/

section Overwrite
variable {α : Type}

/-- the state with head row `v` overwritten by `r` (any row: NaNs, garbage, …). -/
def withHeadRow (s : State α) (v : Nat) (r : Array α) : State α :=
  { s with head := s.head.set! v r }

theorem withHeadRow_head_ne (s : State α) (v : Nat) (r : Array α) (j : Nat) (hj : j ≠ v) :
    (withHeadRow s v r).head[j]! = s.head[j]! :=
  Array.getElem!_set!_ne _ _ _ _ (Ne.symm hj)

theorem tailRow_withHeadRow (P : Params α) (ha : P.aliased = false) (s : State α) (v : Nat)
    (r : Array α) (k : Nat) : tailRow P (withHeadRow s v r) k = tailRow P s k := by
  unfold tailRow
  simp only [ha, Bool.false_eq_true, if_false]
  rfl

theorem modify_set!_comm {β : Type} (a : Array β) (j v : Nat) (f : β → β) (r : β) (h : j ≠ v) :
    (a.set! v r).modify j f = (a.modify j f).set! v r := by
  apply Array.ext_getElem?
  intro k
  simp only [Array.set!_eq_setIfInBounds, Array.getElem?_modify, Array.getElem?_setIfInBounds,
    Array.size_modify]
  by_cases h1 : j = k
  · subst h1
    simp [Ne.symm h]
  · simp [h1]

theorem setHead_withHeadRow (s : State α) (v : Nat) (r : Array α) (j d : Nat) (x : α) (hj : j ≠ v) :
    setHead (withHeadRow s v r) j d x = withHeadRow (setHead s j d x) v r := by
  unfold setHead withHeadRow
  simp only [modify_set!_comm _ _ _ _ _ hj]

theorem setTail_withHeadRow (P : Params α) (ha : P.aliased = false) (s : State α) (v : Nat)
    (r : Array α) (k d : Nat) (x : α) :
    setTail P (withHeadRow s v r) k d x = withHeadRow (setTail P s k d x) v r := by
  unfold setTail
  simp only [ha, Bool.false_eq_true, if_false]
  rfl

theorem withHeadRow_rng (s : State α) (v : Nat) (r : Array α) (x : Array Rng.RState) :
    ({ withHeadRow s v r with rng := x } : State α) = withHeadRow { s with rng := x } v r := by
  simp only [withHeadRow]

theorem bumpEons_withHeadRow [Add α] [Inhabited α] (eps : Array α) (v : Nat) (r : Array α) (i : Nat)
    (t : State α) : bumpEons eps i (withHeadRow t v r) = withHeadRow (bumpEons eps i t) v r := by
  simp only [bumpEons, withHeadRow]

theorem bumpEonns_withHeadRow [Add α] [Mul α] [Inhabited α] (T : Transc α) (epns : Array α)
    (v : Nat) (r : Array α) (i : Nat) (z : Int) (t : State α) :
    bumpEonns T epns i z (withHeadRow t v r) = withHeadRow (bumpEonns T epns i z t) v r := by
  simp only [bumpEonns, withHeadRow]

theorem loops_withHeadRow (step : Nat → State α → Nat → State α) (M v : Nat) (r : Array α)
    (h : ∀ n t, ∀ i < M, step n (withHeadRow t v r) i = withHeadRow (step n t i) v r)
    (N : Nat) (s : State α) :
    (List.range N).foldl (fun s n => (List.range M).foldl (step n) s) (withHeadRow s v r)
      = withHeadRow ((List.range N).foldl (fun s n => (List.range M).foldl (step n) s) s) v r :=
  List.foldl_hom (fun t => withHeadRow t v r) fun _ n =>
    List.foldl_rel (r := fun a b => a = withHeadRow b v r) rfl
      fun i hi _ b e => e ▸ h n b i (List.mem_range.1 hi)

end Overwrite

section
variable {α : Type} [Add α] [Sub α] [Mul α] [Div α] [LE α] [DecidableLE α] [NatCast α] [Inhabited α]
  (T : Transc α) (eps epns : Array α) (n : Nat) {att neg : State α → State α}

theorem negPhase_withHeadRow (v : Nat) (r : Array α)
    (hneg : ∀ t, neg (withHeadRow t v r) = withHeadRow (neg t) v r) (i : Nat) (t : State α) :
    negPhase T epns n neg i (withHeadRow t v r) = withHeadRow (negPhase T epns n neg i t) v r := by
  unfold negPhase
  dsimp only
  rw [show (withHeadRow t v r).eonns = t.eonns from rfl,
    List.foldl_hom (fun t => withHeadRow t v r) (fun t _ => hneg t), bumpEonns_withHeadRow]

/-- overwriting a head row that neither `att` nor `neg` reads commutes with the step. -/
theorem sampledStep_withHeadRow (v : Nat) (r : Array α)
    (hatt : ∀ t, att (withHeadRow t v r) = withHeadRow (att t) v r)
    (hneg : ∀ t, neg (withHeadRow t v r) = withHeadRow (neg t) v r) (s : State α) (i : Nat) :
    sampledStep T eps epns n att neg (withHeadRow s v r) i
      = withHeadRow (sampledStep T eps epns n att neg s i) v r := by
  unfold sampledStep
  rw [show (withHeadRow s v r).eons = s.eons from rfl]
  split_ifs
  · rw [hatt, bumpEons_withHeadRow, negPhase_withHeadRow T epns n v r hneg]
  · rfl

end

section NonInterf
variable {α : Type} [Add α] [Sub α] [Mul α] [Div α] [Neg α] [LT α] [LE α]
  [DecidableLT α] [DecidableLE α] [OfNat α 0] [OfNat α 1] [NatCast α] [Inhabited α]

section
variable (T : Transc α) (rnd : α → α) (P : Params α) (ha : P.aliased = false) {j v : Nat}
  (hj : j ≠ v) (r : Array α)
include ha hj

theorem attractMove_withHeadRow (alpha gc : α) (cor : Option α) (k : Nat) (s : State α) :
    attractMove rnd P alpha gc cor j k (withHeadRow s v r)
      = withHeadRow (attractMove rnd P alpha gc cor j k s) v r := by
  unfold attractMove
  -- every read and every write of the loop body commutes with the overwrite
  refine List.foldl_hom (fun t => withHeadRow t v r) fun t d => ?_
  simp only [withHeadRow_head_ne _ _ _ _ hj, tailRow_withHeadRow P ha,
    setHead_withHeadRow _ _ _ _ _ _ hj, setTail_withHeadRow P ha]
  split_ifs <;> rfl

theorem negSample_withHeadRow (alpha : α) (s : State α) :
    negSample T rnd P alpha j (withHeadRow s v r)
      = withHeadRow (negSample T rnd P alpha j s) v r := by
  unfold negSample
  -- the draw reads only the rng; with the new rng stored the state is again an overwritten one
  -- (`simp only`: the rewritten reads occur in the `Decidable` instances of the `if`s)
  simp only [show (withHeadRow s v r).rng = s.rng from rfl, withHeadRow_rng,
    withHeadRow_head_ne _ _ _ _ hj, tailRow_withHeadRow P ha]
  split
  · exact List.foldl_hom (fun t => withHeadRow t v r) fun t d => by
      rw [withHeadRow_head_ne _ _ _ _ hj, tailRow_withHeadRow P ha,
        setHead_withHeadRow _ _ _ _ _ _ hj]
  · rfl

theorem eucAtt_withHeadRow (alpha : α) (cor : Option (α → α)) (k : Nat) (s : State α) :
    eucAtt T rnd P alpha cor j k (withHeadRow s v r)
      = withHeadRow (eucAtt T rnd P alpha cor j k s) v r := by
  unfold eucAtt
  rw [withHeadRow_head_ne _ _ _ _ hj, tailRow_withHeadRow P ha, attractMove_withHeadRow rnd P ha hj]

end

/--
  **C04(c), non-interference.**  With separate buffers (`aliased = false`, as in `transform`), if
  `v` is the head of no edge then overwriting head row `v` — with NaNs or anything else — commutes
  with the optimisation: every other head row, the whole tail buffer, both clock arrays and all rng
  states evolve exactly as if row `v` had not been changed.  (Both moves read only
  `head[hd[i]]` and the tail.)
-/
theorem head_row_irrelevant (T : Transc α) (rnd : α → α) (P : Params α)
    (ha : P.aliased = false) (hd tl : Array Nat) (eps epns : Array α) (alpha0 : α) (N : Nat)
    (v : Nat) (hh : ∀ i < eps.size, hd[i]! ≠ v) (r : Array α) (s : State α) :
    runEpochs T rnd P hd tl eps epns alpha0 N (withHeadRow s v r)
      = withHeadRow (runEpochs T rnd P hd tl eps epns alpha0 N s) v r :=
  loops_withHeadRow (fun n => edgeStep T rnd P hd tl eps epns (alphaAt alpha0 N n) n none) _ v r
    (fun n t i hi => by
      rw [edgeStep_eq_sampled, edgeStep_eq_sampled]
      exact sampledStep_withHeadRow T eps epns n v r
        (eucAtt_withHeadRow T rnd P ha (hh i hi) r _ _ _)
        (negSample_withHeadRow T rnd P ha (hh i hi) r _) t i) N s

/-- in particular every other head row and the tail buffer do not depend on row `v` at all. -/
theorem other_rows_independent (T : Transc α) (rnd : α → α) (P : Params α)
    (ha : P.aliased = false) (hd tl : Array Nat) (eps epns : Array α) (alpha0 : α) (N : Nat)
    (v : Nat) (hh : ∀ i < eps.size, hd[i]! ≠ v) (r : Array α) (s : State α) (u : Nat) (hu : u ≠ v) :
    (runEpochs T rnd P hd tl eps epns alpha0 N (withHeadRow s v r)).head[u]!
        = (runEpochs T rnd P hd tl eps epns alpha0 N s).head[u]!
    ∧ (runEpochs T rnd P hd tl eps epns alpha0 N (withHeadRow s v r)).tail
        = (runEpochs T rnd P hd tl eps epns alpha0 N s).tail := by
  rw [head_row_irrelevant T rnd P ha hd tl eps epns alpha0 N v hh r s]
  exact ⟨withHeadRow_head_ne _ _ _ _ hu, rfl⟩

end NonInterf

section GenNonInterf
variable {α : Type} [Add α] [Sub α] [Mul α] [Div α] [Neg α] [LT α] [LE α]
  [DecidableLT α] [DecidableLE α] [OfNat α 0] [OfNat α 1] [NatCast α] [Inhabited α]

section
variable (T : Transc α) (rnd : α → α) (P : Params α) (ha : P.aliased = false) (eps6 alpha : α)
  (metric : Array α → Array α → α × Array α) {j v : Nat} (hj : j ≠ v) (r : Array α)
include ha hj

theorem genAttractMove_withHeadRow (k : Nat) (s : State α) :
    genAttractMove T rnd P eps6 alpha metric j k (withHeadRow s v r)
      = withHeadRow (genAttractMove T rnd P eps6 alpha metric j k s) v r := by
  unfold genAttractMove
  simp only [withHeadRow_head_ne _ _ _ _ hj, tailRow_withHeadRow P ha]
  refine List.foldl_hom (fun t => withHeadRow t v r) fun t d => ?_
  simp only [withHeadRow_head_ne _ _ _ _ hj, tailRow_withHeadRow P ha,
    setHead_withHeadRow _ _ _ _ _ _ hj, setTail_withHeadRow P ha]
  split_ifs <;> rfl

theorem genNegSample_withHeadRow (s : State α) :
    genNegSample T rnd P eps6 alpha metric j (withHeadRow s v r)
      = withHeadRow (genNegSample T rnd P eps6 alpha metric j s) v r := by
  unfold genNegSample
  simp only [show (withHeadRow s v r).rng = s.rng from rfl, withHeadRow_rng,
    withHeadRow_head_ne _ _ _ _ hj, tailRow_withHeadRow P ha]
  split
  · rfl
  · exact List.foldl_hom (fun t => withHeadRow t v r) fun t d => by
      rw [withHeadRow_head_ne _ _ _ _ hj, setHead_withHeadRow _ _ _ _ _ _ hj]

end

/-- **C04(c), non-interference, generic kernel**: for any output metric whatsoever. -/
theorem gen_head_row_irrelevant (T : Transc α) (rnd : α → α) (P : Params α)
    (ha : P.aliased = false) (eps6 : α) (metric : Array α → Array α → α × Array α)
    (hd tl : Array Nat) (eps epns : Array α) (alpha0 : α) (N : Nat)
    (v : Nat) (hh : ∀ i < eps.size, hd[i]! ≠ v) (r : Array α) (s : State α) :
    genRunEpochs T rnd P eps6 metric hd tl eps epns alpha0 N (withHeadRow s v r)
      = withHeadRow (genRunEpochs T rnd P eps6 metric hd tl eps epns alpha0 N s) v r :=
  loops_withHeadRow
    (fun n => genEdgeStep T rnd P eps6 metric hd tl eps epns (alphaAt alpha0 N n) n) _ v r
    (fun n t i hi => sampledStep_withHeadRow T eps epns n v r
      (genAttractMove_withHeadRow T rnd P ha eps6 _ metric (hh i hi) r _)
      (genNegSample_withHeadRow T rnd P ha eps6 _ metric (hh i hi) r) t i) N s

end GenNonInterf

/-! ### (b), (c) the generic kernel's coefficients in closed form -/

theorem wl_eq (a b d : ℝ) (hd : 0 < d) : wl realT a b d = (1 + a * d ^ (2 * b))⁻¹ := by
  unfold wl
  rw [if_pos hd]
  simp only [realT, Nat.cast_ofNat]
  rw [Real.rpow_neg_one]

theorem wl_zero (a b d : ℝ) (hd : d ≤ 0) : wl realT a b d = 1 := by
  unfold wl
  rw [if_neg (not_lt.2 hd)]

theorem one_le_wl_den (a b d : ℝ) (ha : 0 ≤ a) (hd : 0 ≤ d) : 1 ≤ 1 + a * d ^ (2 * b) :=
  le_add_of_nonneg_right (mul_nonneg ha (Real.rpow_nonneg hd _))

/-- the low-dimensional membership weight is in `(0, 1]`. -/
theorem wl_range (a b d : ℝ) (ha : 0 ≤ a) : 0 < wl realT a b d ∧ wl realT a b d ≤ 1 := by
  by_cases hd : 0 < d
  · rw [wl_eq a b d hd]
    have h1 := one_le_wl_den a b d ha hd.le
    exact ⟨inv_pos.2 (one_pos.trans_le h1), inv_le_one_of_one_le₀ h1⟩
  · rw [wl_zero a b d (not_lt.1 hd)]
    exact ⟨one_pos, le_refl _⟩

/-- **(b), generic kernel.**  With the Euclidean output metric (`grad = (x - y)/d`) and without
    the `1e-6` guard (`eps6 = 0`) the coded attractive coefficient times the gradient of the
    distance is the property's closed form `-2ab d^(2b-2) / (1 + a d^(2b)) · (x - y)`. -/
theorem gen_attract_coeff_eq (a b d x y : ℝ) (ha : 0 ≤ a) (hd : 0 < d) :
    ((2 : ℕ) : ℝ) * b * (wl realT a b d - 1) / (d + 0) * ((x - y) / d)
      = (-2 * a * b * d ^ (2 * b - 2)) / (1 + a * d ^ (2 * b)) * (x - y) := by
  have h1 : 1 + a * d ^ (2 * b) ≠ 0 := (one_pos.trans_le (one_le_wl_den a b d ha hd.le)).ne'
  rw [wl_eq a b d hd, Real.rpow_sub hd, Real.rpow_two, add_zero, Nat.cast_ofNat]
  generalize d ^ (2 * b) = u at h1 ⊢
  -- `w_l - 1 = -a u / (1 + a u)`; the rest is rearrangement
  have key : (1 + a * u)⁻¹ - 1 = -(a * u) / (1 + a * u) := by
    rw [eq_div_iff h1, sub_mul, inv_mul_cancel₀ h1]; ring
  rw [key]
  ring

/-- **(c), generic kernel.**  Likewise the repulsive coefficient: `2γb / (d² (1 + a d^(2b))) · (x - y)`.
    Unlike the Euclidean kernel (`repulse_coeff_eq`) there is **no** `0.001` regulariser in the
    denominator: the only guard is the `1e-6` added to `d` (here `eps6 = 0`). -/
theorem gen_repulse_coeff_eq (a b gamma d x y : ℝ) (hd : 0 < d) :
    gamma * ((2 : ℕ) : ℝ) * b * wl realT a b d / (d + 0) * ((x - y) / d)
      = (2 * gamma * b) / (d ^ (2 : ℕ) * (1 + a * d ^ (2 * b))) * (x - y) := by
  -- a rearrangement: nothing is cancelled
  rw [wl_eq a b d hd, add_zero, Nat.cast_ofNat, ← div_div]
  generalize d ^ (2 * b) = u
  ring

/-- keeping the guard `e` in `d + e` scales either coefficient by `d / (d + e)`. -/
theorem guard_scale (c d e z : ℝ) (hd : 0 < d) :
    c / (d + e) * (z / d) = c / (d + 0) * (z / d) * (d / (d + e)) := by
  rw [add_comm d e, add_comm d 0, div_eps_add c d e hd.ne', mul_right_comm]

/-- with the guard `eps6 ≥ 0` kept, both coded coefficients are the closed forms scaled by the
    factor `d / (d + eps6) ∈ (0, 1]`. -/
theorem gen_attract_coeff_guard (a b d e x y : ℝ) (ha : 0 ≤ a) (hd : 0 < d) (he : 0 ≤ e) :
    ((2 : ℕ) : ℝ) * b * (wl realT a b d - 1) / (d + e) * ((x - y) / d)
      = (-2 * a * b * d ^ (2 * b - 2)) / (1 + a * d ^ (2 * b)) * (x - y) * (d / (d + e)) := by
  rw [← gen_attract_coeff_eq a b d x y ha hd]; exact guard_scale _ d e _ hd

theorem gen_repulse_coeff_guard (a b gamma d e x y : ℝ) (ha : 0 ≤ a) (hd : 0 < d) (he : 0 ≤ e) :
    gamma * ((2 : ℕ) : ℝ) * b * wl realT a b d / (d + e) * ((x - y) / d)
      = (2 * gamma * b) / (d ^ (2 : ℕ) * (1 + a * d ^ (2 * b))) * (x - y) * (d / (d + e)) := by
  rw [← gen_repulse_coeff_eq a b gamma d x y hd]; exact guard_scale _ d e _ hd

theorem guard_factor_range (d e : ℝ) (hd : 0 < d) (he : 0 ≤ e) :
    0 < d / (d + e) ∧ d / (d + e) ≤ 1 :=
  have hde : 0 < d + e := add_pos_of_pos_of_nonneg hd he
  ⟨div_pos hd hde, (div_le_one hde).2 (le_add_of_nonneg_right he)⟩

-- non-vacuity: `a = 1, b = 1, d = 2`: `w_l = 1/5`
example : wl realT 1 1 2 = 1 / 5 := by
  rw [wl_eq 1 1 2 (by norm_num)]
  norm_num

/-! ### parametric UMAP: edge replication -/

theorem trunc_toNat_of_nonneg (x : ℝ) (hx : 0 ≤ x) : (realT.trunc x).toNat = ⌊x⌋₊ := by
  rw [realT_trunc_of_nonneg hx, Int.toNat_natCast]

/-- each entry of `parametricRepeats`: `0` for a weight below `w_max / N` (pruned), otherwise
    `int(N · w)`. -/
theorem parametric_repeats_spec (ws : List ℝ) (N : ℕ) :
    parametricRepeats realT ws N
      = ws.map (fun w => if w < maxL (ws.headD 0) ws / (N : ℝ) then 0
          else (realT.trunc ((N : ℝ) * w)).toNat) := by
  unfold parametricRepeats
  dsimp only
  refine List.map_congr_left fun w _ => ?_
  -- a pruned weight is replaced by `0`, and `int(N · 0) = 0`
  split_ifs with h
  · rw [mul_zero, trunc_toNat_of_nonneg 0 le_rfl, Nat.floor_zero]
  · rfl

theorem parametric_repeats_get (ws : List ℝ) (N : ℕ) (i : ℕ) (hi : i < ws.length)
    (hw : 0 ≤ ws[i]) :
    (parametricRepeats realT ws N)[i]'(by simpa [parametricRepeats] using hi)
      = if ws[i] < maxL (ws.headD 0) ws / (N : ℝ) then 0 else ⌊(N : ℝ) * ws[i]⌋₊ := by
  simp only [parametric_repeats_spec, List.getElem_map]
  split_ifs with h
  · rfl
  · exact trunc_toNat_of_nonneg _ (mul_nonneg (Nat.cast_nonneg _) hw)

/-- a kept edge of non-negative weight `w` is repeated `N·w` times up to rounding: it is used in
    proportion to its membership strength. -/
theorem parametric_repeats_close (ws : List ℝ) (N : ℕ) (i : ℕ) (hi : i < ws.length)
    (hw : 0 ≤ ws[i]) (hk : ¬ ws[i] < maxL (ws.headD 0) ws / (N : ℝ)) :
    |(((parametricRepeats realT ws N)[i]'(by simpa [parametricRepeats] using hi) : ℕ) : ℝ)
        - (N : ℝ) * ws[i]| < 1 := by
  rw [parametric_repeats_get ws N i hi hw, if_neg hk]
  have hx : 0 ≤ (N : ℝ) * ws[i] := mul_nonneg (Nat.cast_nonneg _) hw
  exact abs_sub_lt_iff.2 ⟨(sub_nonpos.2 (Nat.floor_le hx)).trans_lt one_pos,
    sub_lt_iff_lt_add'.2 (Nat.lt_floor_add_one _)⟩

/-- when the strongest edge has weight at least 1 (the UMAP graph: every point's nearest
    neighbour has membership 1) every kept edge is repeated at least once. -/
theorem parametric_kept_pos (ws : List ℝ) (N : ℕ) (hN : 0 < N) (i : ℕ) (hi : i < ws.length)
    (hmax : 1 ≤ maxL (ws.headD 0) ws) (hk : ¬ ws[i] < maxL (ws.headD 0) ws / (N : ℝ)) :
    1 ≤ (parametricRepeats realT ws N)[i]'(by simpa [parametricRepeats] using hi) := by
  have hN' : (0 : ℝ) < N := by exact_mod_cast hN
  have hle : maxL (ws.headD 0) ws / N ≤ ws[i] := not_lt.1 hk
  have hw : 0 ≤ ws[i] := (div_pos (one_pos.trans_le hmax) hN').le.trans hle
  rw [parametric_repeats_get ws N i hi hw, if_neg hk]
  rw [div_le_iff₀ hN'] at hle
  exact Nat.le_floor (by rw [Nat.cast_one, mul_comm]; exact hmax.trans hle)

-- non-vacuity: weights `1, 1/2, 1/100`, `N = 10`: the third edge is pruned (`1/100 < 1/10`)
example : parametricRepeats realT [1, 1 / 2, 1 / 100] 10 = [10, 5, 0] := by
  rw [parametric_repeats_spec]
  have hm : maxL (([1, 1 / 2, 1 / 100] : List ℝ).headD 0) [1, 1 / 2, 1 / 100] = 1 := by
    norm_num [maxL]
  rw [hm]
  have t1 : (realT.trunc (((10 : ℕ) : ℝ) * 1)).toNat = 10 := by
    rw [mul_one, trunc_toNat_of_nonneg _ (Nat.cast_nonneg _), Nat.floor_natCast]
  have t2 : (realT.trunc (((10 : ℕ) : ℝ) * (1 / 2))).toNat = 5 := by
    rw [show ((10 : ℕ) : ℝ) * (1 / 2) = ((5 : ℕ) : ℝ) by norm_num,
      trunc_toNat_of_nonneg _ (Nat.cast_nonneg _), Nat.floor_natCast]
  simp only [List.map_cons, List.map_nil, t1, t2]
  norm_num

/-! ### (C17) the density term at most doubles the per-write bound -/

section Dens
variable {K : Type} [Field K] [LinearOrder K] [IsStrictOrderedRing K]

theorem clip_sum_abs (u v : K) : |clip u + clip v| ≤ 8 :=
  (abs_add_le _ _).trans ((add_le_add (clip_abs u) (clip_abs v)).trans_eq (by norm_num))

/-- **C17.** With the density term on, the gradient used by an attractive write is
    `clip(gc · Δ) + clip(2 · cor · Δ)` (each term clipped separately), so one write moves a
    coordinate by at most `8 α` (twice the plain-UMAP bound `move_le_four_alpha`). -/
theorem dens_term_bounded (cur oth gc c alpha : K) (ha : 0 ≤ alpha) :
    |(cur + (clip (gc * (cur - oth)) + clip (((2 : Nat) : K) * c * (cur - oth))) * alpha) - cur|
      ≤ 8 * alpha :=
  write_le _ _ _ 8 ha (clip_sum_abs _ _)

end Dens

/-- the bound `8 α` is attained (so `4 α` would be false with the density term on). -/
example : |((0 : ℚ) + (clip (5 * (1 - 0)) + clip (((2 : Nat) : ℚ) * 3 * (1 - 0))) * 1) - 0| = 8 := by
  decide +kernel

/-! ### the per-write bounds on the model: one attractive move shifts a coordinate by ≤ 4α (8α) -/

/-- no bound on `j` is needed when `f` fixes the default (as a store into the empty row does). -/
theorem getElem!_modify_self {β : Type} [Inhabited β] (a : Array β) (j : Nat) (f : β → β)
    (hf : f default = default) : (a.modify j f)[j]! = f a[j]! := by
  rw [getElem!_def, getElem!_def, Array.getElem?_modify, if_pos rfl]
  cases a[j]? <;> simp [hf]

/-- coordinate `(j, d)` of the head buffer, with the row size that keeps `d` in bounds. -/
def coordAt {α : Type} [Inhabited α] (j d : Nat) (s : State α) : α × Nat :=
  ((s.head[j]!)[d]!, (s.head[j]!).size)

theorem setHead_coordAt_ne {α : Type} [Inhabited α] (s : State α) (j d d' : Nat) (x : α)
    (h : d' ≠ d) : coordAt j d (setHead s j d' x) = coordAt j d s := by
  unfold coordAt setHead
  simp only [getElem!_modify_self _ _ (fun row : Array α => row.set! d' x) rfl,
    Array.getElem!_set!_ne _ _ _ _ h, Array.size_set!]

theorem setHead_coordAt_self {α : Type} [Inhabited α] (s : State α) (j d : Nat) (x : α) {c : α}
    {S : Nat} (hs : coordAt j d s = (c, S)) (hd : d < S) :
    coordAt j d (setHead s j d x) = (x, S) := by
  obtain rfl : (s.head[j]!).size = S := congrArg Prod.snd hs
  unfold coordAt setHead
  simp only [getElem!_modify_self _ _ (fun row : Array α => row.set! d x) rfl,
    Array.getElem!_set!_self _ _ _ hd, Array.size_set!]

section CoordMove
variable {K : Type} [Field K] [LinearOrder K] [IsStrictOrderedRing K] [Inhabited K]

/--
  **(d) / C17 on the model** (exact arithmetic, `move_other = False`): one attractive move changes
  coordinate `d < dim` of the head row `j` by at most `4 α` without the density term and by at most
  `8 α` with it.
-/
theorem attractMove_coord_le (P : Params K) (hm : P.moveOther = false) (alpha gc : K)
    (ha : 0 ≤ alpha) (cor : Option K) (j k d : Nat) (s : State K) (hd : d < P.dim)
    (hj : j < s.head.size) (hdj : d < (s.head[j]!).size) :
    |((attractMove id P alpha gc cor j k s).head[j]!)[d]! - (s.head[j]!)[d]!|
      ≤ (if cor.isSome then 8 else 4) * alpha := by
  -- only iteration `d` of the loop writes coordinate `d`, and it moves it by one clipped step
  change |(coordAt j d (attractMove id P alpha gc cor j k s)).1 - (coordAt j d s).1| ≤ _
  unfold attractMove
  simp only [hm, Bool.false_eq_true, if_false]
  obtain ⟨t, ht, e⟩ := foldl_range_single (coordAt j d) _ hd
    (fun t x hx => setHead_coordAt_ne t j d x _ hx) s
  rw [e.trans (setHead_coordAt_self t j d _ ht hdj), ← ht]
  cases cor with
  | none => exact move_le_four_alpha _ _ _ _ ha
  | some c => exact dens_term_bounded _ _ _ _ _ ha

end CoordMove

/-- a toy `Transc ℚ` (only `pow`, `trunc`, `ofInt` are used by the SGD kernels). -/
def toyT : Transc ℚ where
  exp := id
  log := id
  sqrt := id
  pow := fun _ _ => 1
  sin := id
  cos := id
  asin := id
  acosh := id
  trunc := fun x => if 0 ≤ x then ⌊x⌋ else ⌈x⌉
  ofInt := fun z => (z : ℚ)

def toyP : Params ℚ := { a := 1, b := 1, gamma := 1, dim := 2, nVertices := 2,
                         moveOther := false, aliased := false }

/-- three new points (the third, `v = 2`, has no edge) against two reference points. -/
def toyS : State ℚ :=
  { head := #[#[0, 0], #[3, 0], #[7, 7]], tail := #[#[1, 0], #[0, 1]],
    eons := #[1, 1], eonns := #[1/5, 1/5], rng := #[(1, 2, 3), (4, 5, 6), (7, 8, 9)] }

-- the hypotheses of `head_untouched` / `head_row_irrelevant` hold for `v = 2`:
example : ∀ i < (#[(1 : ℚ), 1] : Array ℚ).size, (#[0, 1] : Array Nat)[i]! ≠ 2 := by decide
example : toyP.aliased = true ∧ toyP.moveOther = true →
    ∀ i < (#[(1 : ℚ), 1] : Array ℚ).size, (#[1, 0] : Array Nat)[i]! ≠ 2 := by decide

-- and the epoch is not the identity: row 0 moves, row 2 stays
example : (epoch toyT id toyP #[0, 1] #[1, 0] #[1, 1] #[1/5, 1/5] 1 1 none toyS).head[0]!
    ≠ toyS.head[0]! := by decide +kernel
example : (epoch toyT id toyP #[0, 1] #[1, 0] #[1, 1] #[1/5, 1/5] 1 1 none toyS).head[2]!
    = toyS.head[2]! := by decide +kernel

-- generic kernel, with a toy output metric (distance 1, gradient `x - y`)
def toyMetric (x y : Array ℚ) : ℚ × Array ℚ := (1, #[x[0]! - y[0]!, x[1]! - y[1]!])

example : (genEpoch toyT id toyP 0 toyMetric #[0, 1] #[1, 0] #[1, 1] #[1/5, 1/5] 1 1 toyS).head[0]!
    ≠ toyS.head[0]! := by decide +kernel
example : (genEpoch toyT id toyP 0 toyMetric #[0, 1] #[1, 0] #[1, 1] #[1/5, 1/5] 1 1 toyS).head[2]!
    = toyS.head[2]! := by decide +kernel
example : (genEpoch toyT id toyP 0 toyMetric #[0, 1] #[1, 0] #[1, 1] #[1/5, 1/5] 1 1 toyS).tail
    = toyS.tail := by decide +kernel

-- hypotheses of `run_clock` (edge 0) and of `attractMove_coord_le` (row 0, coordinate 1)
example : 0 < (#[(1 : ℚ), 1] : Array ℚ).size ∧ 0 < toyS.eons.size ∧ 0 < toyS.eonns.size
    ∧ toyS.eons[0]! = (#[(1 : ℚ), 1] : Array ℚ)[0]!
    ∧ toyS.eonns[0]! = (#[(1 / 5 : ℚ), 1 / 5] : Array ℚ)[0]! := by decide +kernel
example : toyP.moveOther = false ∧ 1 < toyP.dim ∧ 0 < toyS.head.size
    ∧ 1 < (toyS.head[0]!).size := by decide +kernel
-- the clocks do move: edge 0 is visited in epoch 1 and 4 negatives are drawn (⌊1/(1/5)⌋ - 1)
example : (epoch toyT id toyP #[0, 1] #[1, 0] #[1, 1] #[1/5, 1/5] 1 1 none toyS).eons[0]! = 2
    ∧ (epoch toyT id toyP #[0, 1] #[1, 0] #[1, 1] #[1/5, 1/5] 1 1 none toyS).eonns[0]! = 1 := by
  decide +kernel

end C07
end Umap

