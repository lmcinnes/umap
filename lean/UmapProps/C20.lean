/-
  C20 — precomputed_knn is used exactly as if UMAP had computed (and pruned) it.

  Model: `Umap.Api.validatePrecomputedKnn` mirroring the `if/elif` chain.  The observed truth
  table of the live `_validate_parameters` is regenerated into `Generated.KnnDecision` on every
  run and proved equal to the model on the whole abstraction grid.
-/

import UmapModel.Api
import UmapModel.Graph
import Generated.KnnDecision
import Mathlib.Order.Nat
import Mathlib.Tactic.SplitIfs

namespace Umap
namespace C20
open Api

/-- the live chain in closed form: ignored iff too few columns or wrong row count; otherwise
    exactly `k` columns, and the approximate path forced on small data. -/
theorem validate_eq (cols k rows n : Nat) (force : Bool) :
    validatePrecomputedKnn false cols k rows n force =
      if cols < k ∨ rows ≠ n then .ignore else .use k (force || decide (rows < 4096)) := by
  unfold validatePrecomputedKnn
  by_cases h1 : cols < k
  · rw [if_pos h1, if_pos (Or.inl h1)]
  by_cases h2 : rows ≠ n
  · rw [if_neg h1, if_pos h2, if_pos (Or.inr h2)]
  rw [if_neg h1, if_neg h2, if_neg (not_or.2 ⟨h1, h2⟩), if_neg Bool.false_ne_true]
  have hf : (if rows < 4096 ∧ force = false then true else force) = (force || decide (rows < 4096)) := by
    cases force <;> simp
  simp only [hf]
  split_ifs with h3
  · rfl
  · rw [le_antisymm (not_lt.1 h3) (not_lt.1 h1)]

/-- pruning is unconditional: whenever the table is used, exactly `n_neighbors` columns are
    used — for every dataset size and either setting of `force_approximation_algorithm`. -/
theorem prune_always (cols k rows n : Nat) (force : Bool) (c : Nat) (f : Bool)
    (h : validatePrecomputedKnn false cols k rows n force = .use c f) : c = k := by
  rw [validate_eq] at h
  split_ifs at h
  exact (KnnDecision.use.inj h).1.symm

/-- the table is ignored exactly when it has too few columns or the wrong number of rows. -/
theorem ignore_iff (cols k rows n : Nat) (force : Bool) :
    validatePrecomputedKnn false cols k rows n force = .ignore ↔ (cols < k ∨ rows ≠ n) := by
  rw [validate_eq]
  split_ifs with h <;> simp [h]

/-- used tables take the approximate-path code on small data (what keeps downstream paths working). -/
theorem small_forces_approx (cols k rows n : Nat) (force : Bool) (c : Nat) (f : Bool)
    (hs : rows < 4096) (h : validatePrecomputedKnn false cols k rows n force = .use c f) :
    f = true := by
  rw [validate_eq] at h
  split_ifs at h
  rw [← (KnnDecision.use.inj h).2, decide_eq_true hs, Bool.or_true]

/-- the graph depends only on the first `n_neighbors` columns: supplying a wider table and
    supplying its first `k` columns lead to the same decision and the same columns used. -/
theorem same_as_prefix (cols k rows n : Nat) (force : Bool) (hc : k ≤ cols) :
    validatePrecomputedKnn false cols k rows n force = validatePrecomputedKnn false k k rows n force := by
  rw [validate_eq, validate_eq]
  simp only [not_lt.2 hc, lt_irrefl]

/-- the chain of the pinned revision of umap (`pinned = true`) did not prune small data without the
    force flag. -/
theorem pinned_not_pruned :
    validatePrecomputedKnn true 10 5 80 80 false = .use 10 true := by decide

/-! ### the live decision table (regenerated from /repo on every run) -/

/-- evaluate the model on an abstract grid point `(cols, k, rows, n, force)` and report
    `(ignored, columns used, force flag afterwards)`. -/
def modelRow (cols k rows n : Nat) (force : Bool) : Bool × Nat × Bool :=
  match validatePrecomputedKnn false cols k rows n force with
  | .ignore => (true, 0, force)
  | .use c f => (false, c, f)

/-- the live code takes the same decision as the model at every grid point. -/
theorem live_table_agrees :
    ∀ e ∈ Generated.knnDecisionTable,
      modelRow e.1 e.2.1 e.2.2.1 e.2.2.2.1 e.2.2.2.2.1 = e.2.2.2.2.2 := by
  decide +kernel

/-- non-vacuity: the table is not empty and contains a pruned small-data case. -/
example : Generated.knnDecisionTable.length ≥ 12 := by decide +kernel

open Graph in
/-- the part of a supplied kNN table (`knn_indices` or `knn_dists`) that the graph stage reads:
    its first `c` columns when the decision is `.use c _`.  (For `.ignore` the table is not
    consulted at all — the kNN is recomputed — and `usedTable` returns it unchanged; only the
    `.use` case is used below.) -/
def usedTable {β : Type} (d : KnnDecision) (tbl : List (List β)) : List (List β) :=
  match d with
  | .use c _ => takeCols c tbl
  | .ignore => tbl

open Graph in
theorem usedTable_eq_takeCols {β : Type} (cols k rows n : Nat) (force : Bool) (hk : k ≤ cols)
    (hr : rows = n) (tbl : List (List β)) :
    usedTable (validatePrecomputedKnn false cols k rows n force) tbl = takeCols k tbl := by
  rw [validate_eq, if_neg (not_or.2 ⟨not_lt.2 hk, not_not.2 hr⟩)]
  rfl

open Graph in
theorem length_takeCols {β : Type} (k : Nat) (t : List (List β)) : (takeCols k t).length = t.length :=
  List.length_map _

open Graph in
theorem mem_takeCols {β : Type} {k : Nat} {t : List (List β)} {row : List β} :
    row ∈ takeCols k t ↔ ∃ row' ∈ t, row'.take k = row := List.mem_map

open Graph in
theorem takeCols_getElem? {β : Type} (k : Nat) (t : List (List β)) (i : Nat) :
    (takeCols k t)[i]? = (t[i]?).map (List.take k) := List.getElem?_map

open Graph in
theorem takeCols_takeCols {β : Type} (k c : Nat) (hk : k ≤ c) (t : List (List β)) :
    takeCols k (takeCols c t) = takeCols k t := by
  unfold takeCols
  rw [List.map_map]
  apply List.map_congr_left
  intro row _
  simp only [Function.comp, List.take_take, Nat.min_eq_left hk]

open Graph in
theorem takeCols_of_le {β : Type} (k : Nat) (t : List (List β)) (h : ∀ row ∈ t, row.length ≤ k) :
    takeCols k t = t :=
  (List.map_congr_left fun row hrow => List.take_of_length_le (h row hrow)).trans (List.map_id t)

section
open Graph
variable {α : Type} [Add α] [Sub α] [Mul α] [Div α] [Neg α] [LT α] [LE α]
  [DecidableLT α] [DecidableLE α] [OfNat α 0] [OfNat α 1] [NatCast α]

/--
  For `k = n_neighbors ≤ cols` (and the right number of rows) the
  graph computed from the table selected by `_validate_parameters` out of a supplied
  `cols`-column `precomputed_knn` is the graph computed from its first `k` columns — for every
  scalar type (so at `Float` and at `ℝ` alike), every parameter setting, every table.
-/
theorem graph_depends_on_prefix (T : Transc α) (tol minScale target : α) (lcIdx : Nat) (lcFrac : α)
    (nIter : Nat) (r : α) (cols k rows n : Nat) (force : Bool) (hk : k ≤ cols) (hr : rows = n)
    (idx : List (List (Option Nat))) (ds : List (List (Option α))) :
    graphOfKnn T tol minScale target lcIdx lcFrac nIter r
        (usedTable (validatePrecomputedKnn false cols k rows n force) idx)
        (usedTable (validatePrecomputedKnn false cols k rows n force) ds)
      = graphOfKnn T tol minScale target lcIdx lcFrac nIter r (takeCols k idx) (takeCols k ds) := by
  rw [usedTable_eq_takeCols cols k rows n force hk hr,
    usedTable_eq_takeCols cols k rows n force hk hr]

/-- hence two supplied tables (possibly of different widths `cols`, `cols'`) that agree on their
    first `k` columns give the same graph: the columns beyond `n_neighbors` are never read. -/
theorem graph_eq_of_prefix_eq (T : Transc α) (tol minScale target : α) (lcIdx : Nat) (lcFrac : α)
    (nIter : Nat) (r : α) (cols cols' k rows n : Nat) (force force' : Bool)
    (hk : k ≤ cols) (hk' : k ≤ cols') (hr : rows = n)
    (idx idx' : List (List (Option Nat))) (ds ds' : List (List (Option α)))
    (hi : takeCols k idx = takeCols k idx') (hd : takeCols k ds = takeCols k ds') :
    graphOfKnn T tol minScale target lcIdx lcFrac nIter r
        (usedTable (validatePrecomputedKnn false cols k rows n force) idx)
        (usedTable (validatePrecomputedKnn false cols k rows n force) ds)
      = graphOfKnn T tol minScale target lcIdx lcFrac nIter r
        (usedTable (validatePrecomputedKnn false cols' k rows n force') idx')
        (usedTable (validatePrecomputedKnn false cols' k rows n force') ds') := by
  rw [graph_depends_on_prefix T tol minScale target lcIdx lcFrac nIter r cols k rows n force hk hr,
    graph_depends_on_prefix T tol minScale target lcIdx lcFrac nIter r cols' k rows n force' hk' hr,
    hi, hd]

/-- supplying the already-pruned table (`k` columns) is the same as supplying the wide one. -/
theorem graph_pruned_same (T : Transc α) (tol minScale target : α) (lcIdx : Nat) (lcFrac : α)
    (nIter : Nat) (r : α) (cols k rows n : Nat) (force : Bool) (hk : k ≤ cols) (hr : rows = n)
    (idx : List (List (Option Nat))) (ds : List (List (Option α))) :
    graphOfKnn T tol minScale target lcIdx lcFrac nIter r
        (usedTable (validatePrecomputedKnn false cols k rows n force) idx)
        (usedTable (validatePrecomputedKnn false cols k rows n force) ds)
      = graphOfKnn T tol minScale target lcIdx lcFrac nIter r
        (usedTable (validatePrecomputedKnn false k k rows n force) (takeCols k idx))
        (usedTable (validatePrecomputedKnn false k k rows n force) (takeCols k ds)) := by
  rw [graph_depends_on_prefix T tol minScale target lcIdx lcFrac nIter r cols k rows n force hk hr,
    graph_depends_on_prefix T tol minScale target lcIdx lcFrac nIter r k k rows n force (le_refl k) hr,
    takeCols_takeCols k k le_rfl, takeCols_takeCols k k le_rfl]

end

/-- non-vacuity: a 3-column table, `n_neighbors = 2`, 3 rows: the decision is `.use 2 true` and
    the used table is the 2-column prefix. -/
example : validatePrecomputedKnn false 3 2 3 3 false = .use 2 true := by decide
example : usedTable (validatePrecomputedKnn false 3 2 3 3 false)
    [[some 0, some 1, some 2], [some 1, some 0, none], [some 2, some 0, some 1]]
    = [[some 0, some 1], [some 1, some 0], [some 2, some 0]] := by decide

end C20
end Umap
