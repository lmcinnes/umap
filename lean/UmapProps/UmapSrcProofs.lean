/-
  UmapProps.UmapSrcProofs — the kernels of umap/umap_.py as written (`Generated/UmapSrc.lean`, machine-translated
  from the source text) equal the hand-written model, for all inputs under named shape hypotheses.
-/
import UmapModel.Knn
import UmapModel.Graph
import UmapModel.Pipeline
import Generated.UmapSrc
import UmapProofs.Bracket
import UmapProps.C10
import UmapProofs.UmapSrcLemmas

set_option linter.unusedSectionVars false -- the `_src` statements

namespace Umap
namespace UmapSrcProofs
open SrcLemmas UmapSrcLemmas

section generic
variable {α : Type} [Add α] [Sub α] [Mul α] [Div α] [Neg α] [LT α] [LE α]
  [DecidableLT α] [DecidableLE α] [OfNat α 0] [OfNat α 1] [NatCast α]

/-- the entries that pass the source's `np.isfinite` test are the model's `finites` -/
theorem filter_finite (infv : α) (hirr : ¬ infv < infv) (xs : List (Option α))
    (hfin : ∀ x, some x ∈ xs → -infv < x ∧ x < infv) :
    (xs.map (fun o => o.getD infv)).filter (fun v => decide (v < infv) && decide (-infv < v))
      = Knn.finites xs := by
  induction xs with
  | nil => rfl
  | cons o xs ih =>
    have ih := ih fun x hx => hfin x (List.mem_cons_of_mem _ hx)
    cases o with
    | none =>
      rw [List.map_cons, List.filter_cons_of_neg (by simp [hirr]), ih]
      rfl
    | some x =>
      obtain ⟨h1, h2⟩ := hfin x List.mem_cons_self
      rw [List.map_cons, List.filter_cons_of_pos (by simp [h1, h2]), ih]
      rfl

/-- `_finite_mean` as written = `Knn.finiteMean`, a row with `inf` entries being encoded as
    `none ↦ infv`.  `hirr` (`infv` is not below itself) is what makes `np.isfinite(inf)` false. -/
theorem finiteMean_src (infv : α) (hirr : ¬ infv < infv) (xs : List (Option α))
    (hfin : ∀ x, some x ∈ xs → -infv < x ∧ x < infv) :
    SrcUmap.finiteMean infv (xs.map (fun o => o.getD infv)) = Knn.finiteMean xs := by
  -- the guarded loop is a loop over the filtered list, on two independent accumulators
  simp only [SrcUmap.finiteMean, Prod.mk.eta,
    ← foldl_filter' (fun v => decide (v < infv) && decide (-infv < v))
      (fun (st : α × Nat) v => (st.1 + v, st.2 + 1)),
    filter_finite infv hirr xs hfin, foldl_add_pair, List.foldl_add_const, Nat.one_mul, Nat.zero_add, Knn.finiteMean,
    beq_iff_eq, sumL]

/-- the label encoding of the model: `-1` = unlabelled -/
def labelsOf (target : List Int) : List (Option Int) :=
  target.map (fun t => if t == -1 then none else some t)

theorem labelsOf_getElem? (target : List Int) (i : Nat) (hi : i < target.length) :
    (labelsOf target)[i]? = some (if target.getD i 0 == -1 then none else some (target.getD i 0)) := by
  rw [labelsOf, List.getElem?_map, List.getD_eq_getElem?_getD, List.getElem?_eq_getElem hi]
  rfl

/-- `fast_intersection` as written = `Graph.fastIntersection` on the COO triples, the labels being
    `-1 ↦ none`.  `hrow` / `hcol` (every stored position indexes into `target`) are needed: the translated
    source reads `target.getD i 0` (label `0`) out of range where the model says "unknown". -/
theorem fastIntersection_src (T : Transc α) (rows cols : List Nat) (values : List α) (target : List Int)
    (ud fd : α) (hrc : rows.length = cols.length) (hrv : rows.length = values.length)
    (hrow : ∀ i ∈ rows, i < target.length) (hcol : ∀ j ∈ cols, j < target.length) :
    SrcUmap.fastIntersection T rows cols values target ud fd
      = (Graph.fastIntersection T (labelsOf target) ud fd (rows.zip (cols.zip values))).map (·.2.2) := by
  -- every branch of the source's `if` is an in-place update of cell `nz`
  have lu := foldl_update (fun nz v =>
    if (target.getD (rows.getD nz 0) 0 == -1 || target.getD (cols.getD nz 0) 0 == -1) = true then
      v * T.exp (-ud)
    else if (target.getD (rows.getD nz 0) 0 != target.getD (cols.getD nz 0) 0) = true then v * T.exp (-fd)
    else v) 0 values hrv.symm
  simp only [SrcUmap.fastIntersection, set_ite _ _ _ _ (0 : α), ite_set, lu, Graph.fastIntersection,
    zip_eq_map_range cols values 0 0 hrc.symm hrv.symm, zip_map_range rows _ 0 rfl, List.map_map]
  refine map_range_congr fun nz hnz => ?_
  have hi := hrow (rows.getD nz 0) (getD_mem hnz)
  have hj := hcol (cols.getD nz 0) (getD_mem (hrc ▸ hnz))
  simp only [Function.comp_apply, labelsOf_getElem? _ _ hi, labelsOf_getElem? _ _ hj]
  generalize target.getD (rows.getD nz 0) 0 = a
  generalize target.getD (cols.getD nz 0) 0 = b
  cases a == -1
  · cases b == -1
    · -- both labelled: the source tests `!=`, the model `==`
      simp only [Bool.or_self, Bool.false_eq_true, if_false, bne]
      rcases Bool.eq_false_or_eq_true (a == b) with h | h
      · simp only [h, Bool.not_true, Bool.false_eq_true, if_false, if_true]
      · simp only [h, Bool.not_false, Bool.false_eq_true, if_false, if_true]
    · rfl
  · rfl

/-- `init_transform` as written (three nested index loops writing `result[i, d] += w * e` in place) =
    `Pipeline.initTransform`, under rectangular shapes: `indices` and `weights` have the same number of rows, all
    of length `k` (the source takes the column count from row 0 of `indices`). -/
theorem initTransform_src (indices : List (List Nat)) (weights embedding : List (List α)) (k : Nat)
    (hlen : indices.length = weights.length) (hik : ∀ r ∈ indices, r.length = k)
    (hwk : ∀ r ∈ weights, r.length = k) :
    SrcUmap.initTransform indices weights embedding
      = Pipeline.initTransform (embedding.getD 0 []).length indices weights embedding := by
  unfold SrcUmap.initTransform Pipeline.initTransform
  simp only []
  refine (foldl_accum3 (fun i j d => (weights.getD i []).getD j 0 *
      (embedding.getD ((indices.getD i []).getD j 0) []).getD d 0) _ _ _ 0).trans ?_
  rw [zip_eq_map_range indices weights [] [] rfl hlen.symm, List.map_map]
  refine map_range_congr fun i hi => map_range_congr fun d _ => ?_
  have hk0 : (indices.getD 0 []).length = k := hik _ (getD_mem (Nat.zero_lt_of_lt hi))
  have h1 : (indices.getD i []).length = k := hik _ (getD_mem hi)
  have h2 : (weights.getD i []).length = k := hwk _ (getD_mem (hlen ▸ hi))
  rw [hk0]
  dsimp only [Function.comp_apply]
  rw [zip_eq_map_range _ _ 0 0 h1 h2, List.foldl_map]

end generic

section initUpdate
variable {α : Type} [Add α] [Div α] [OfNat α 0] [NatCast α]

/-- the inner loop `for d: if indices[i, j] < n_original_samples: n += 1; current_init[i, d] += current_init[x, d]`
    of one iteration of `init_update`, for one neighbour `x = indices[i, j]`, on the state `(n, current_init)` -/
def iuInner (nOrig x i : Nat) (s : Nat × List (List α)) : Nat × List (List α) :=
  (List.range (s.2.getD 0 []).length).foldl (fun s d =>
    if x < nOrig then
      (s.1 + 1, s.2.set i ((s.2.getD i []).set d ((s.2.getD i []).getD d 0 + (s.2.getD x []).getD d 0)))
    else s) s

/-- the accumulation loops `for j: for d: …` over the neighbours of row `i` -/
def iuLoop (nOrig : Nat) (nbrs : List Nat) (k0 i : Nat) (s0 : Nat × List (List α)) : Nat × List (List α) :=
  (List.range k0).foldl (fun s j => iuInner nOrig (nbrs.getD j 0) i s) s0

/-- the division loop `for d: current_init[i, d] /= n` -/
def iuDiv (i n : Nat) (st : List (List α)) : List (List α) :=
  (List.range (st.getD 0 []).length).foldl (fun s d =>
    s.set i ((s.getD i []).set d ((s.getD i []).getD d 0 / ((n : Nat) : α)))) st

/-- the body of the outer `for i in range(n_original_samples, indices.shape[0])` loop -/
def iuBody (nOrig : Nat) (indices : List (List Nat)) (st : List (List α)) (i : Nat) : List (List α) :=
  let s := iuLoop nOrig (indices.getD i []) (indices.getD 0 []).length i (0, st)
  if s.1 > 0 then iuDiv i s.1 s.2 else s.2

theorem initUpdate_unfold (ci : List (List α)) (nOrig : Nat) (indices : List (List Nat)) :
    SrcUmap.initUpdate ci nOrig indices
      = (SrcUmap.rangeFrom nOrig indices.length).foldl (iuBody nOrig indices) ci := rfl

/-- the accumulation loops of one new row `i ≥ nOrig`: they only ever write row `i`, and read rows `< nOrig`,
    which are therefore those of the state the body started from -/
theorem iuLoop_eq (nOrig dim : Nat) (nbrs : List Nat) (i : Nat) (st : List (List α))
    (hi : nOrig ≤ i) (hiN : i < st.length) (hrows : ∀ r ∈ st, r.length = dim) :
    iuLoop nOrig nbrs nbrs.length i (0, st)
      = ((nbrs.filter (· < nOrig)).length * dim,
         st.set i ((List.range dim).map (fun d =>
           (nbrs.filter (· < nOrig)).foldl (fun acc x => acc + (st.getD x []).getD d 0)
             ((st.getD i []).getD d 0)))) := by
  have hr : (st.getD i []).length = dim := hrows _ (getD_mem hiN)
  -- the inner loop on row `i` alone, reading the rows of `st`: the body of `row_loop`
  let G (s : Nat × List α) (x : Nat) : Nat × List α := (List.range dim).foldl (fun s d =>
    if x < nOrig then (s.1 + 1, s.2.set d (s.2.getD d 0 + (st.getD x []).getD d 0)) else s) s
  -- on a state `st.set i r` the loops act on `r`
  have h := foldl_range_enc (fun s : Nat × List α => (s.1, st.set i s.2)) (fun _ s => s.2.length = dim)
    (fun s j => iuInner nOrig (nbrs.getD j 0) i s) (fun s j => G s (nbrs.getD j 0)) nbrs.length
    (fun j s _ hs => foldl_inv (fun s : Nat × List α => s.2.length = dim) _
      (fun s d hs => by split <;> simp only [List.length_set, hs]) _ s hs)
    (fun j s _ hs => by
      have h0 : ((st.set i s.2).getD 0 []).length = dim :=
        rows_set hrows i hs _ (getD_mem (by rw [List.length_set]; exact Nat.zero_lt_of_lt hiN))
      rw [iuInner, h0]
      refine List.foldl_hom (fun s : Nat × List α => (s.1, st.set i s.2)) fun s d => ?_
      by_cases hx : nbrs.getD j 0 < nOrig
      · rw [if_pos hx, if_pos hx, getD_set_self _ _ _ _ hiN,
          getD_set_ne _ _ _ _ _ (Nat.ne_of_gt (Nat.lt_of_lt_of_le hx hi)), List.set_set]
      · rw [if_neg hx, if_neg hx])
    (0, st.getD i []) hr
  rw [set_getD_self] at h
  rw [iuLoop, h, ← foldl_eq_foldl_range nbrs 0 rfl G,
    row_loop (fun x => x < nOrig) (fun x d => (st.getD x []).getD d 0) 0 dim nbrs 0 _ hr, Nat.zero_add]

theorem iuDiv_eq (i n dim : Nat) (st : List (List α)) (hiN : i < st.length)
    (hrows : ∀ r ∈ st, r.length = dim) :
    iuDiv i n st = st.set i ((st.getD i []).map (fun v => v / ((n : Nat) : α))) := by
  unfold iuDiv
  have h0 : (st.getD 0 []).length = dim := hrows _ (getD_mem (Nat.zero_lt_of_lt hiN))
  have hr : (st.getD i []).length = dim := hrows _ (getD_mem hiN)
  rw [h0, foldl_slot (fun d (r : List α) => r.set d (r.getD d 0 / ((n : Nat) : α))) (List.range dim) i [] st,
    foldl_update (fun _ v => v / ((n : Nat) : α)) 0 (st.getD i []) hr,
    ← map_eq_map_range (st.getD i []) 0 hr (fun v => v / ((n : Nat) : α))]

/-- one iteration of the outer loop, for a new row `i ≥ nOrig`, on any state whose rows all have length `dim` -/
theorem iuBody_eq (nOrig dim k : Nat) (indices : List (List Nat)) (st : List (List α)) (i : Nat)
    (hi : nOrig ≤ i) (hiN : i < st.length) (hrows : ∀ r ∈ st, r.length = dim)
    (hk : ∀ r ∈ indices, r.length = k) (hiI : i < indices.length) :
    iuBody nOrig indices st i
      = st.set i (Pipeline.initUpdateRow nOrig dim (fun j => st.getD j []) (st.getD i []) (indices.getD i [])) := by
  -- the `j` loop runs to the length of row 0 of `indices`, which is that of row `i`
  rw [iuBody, hk _ (getD_mem (Nat.zero_lt_of_lt hiI)), ← hk _ (getD_mem hiI),
    iuLoop_eq nOrig dim _ i st hi hiN hrows]
  unfold Pipeline.initUpdateRow
  simp only []
  by_cases hn : ((indices.getD i []).filter (· < nOrig)).length * dim = 0
  · rw [if_neg (hn ▸ Nat.lt_irrefl 0), if_pos hn]
  · rw [if_pos (Nat.pos_of_ne_zero hn), if_neg hn]
    rw [iuDiv_eq i _ dim _ (by rwa [List.length_set])
      (rows_set hrows i (by rw [List.length_map, List.length_range])),
      getD_set_self _ _ _ _ hiN, List.set_set]

end initUpdate

section generic
variable {α : Type} [Add α] [Sub α] [Mul α] [Div α] [Neg α] [LT α] [LE α]
  [DecidableLT α] [DecidableLE α] [OfNat α 0] [OfNat α 1] [NatCast α]

/-- `init_update` as written = rows `< nOrig` unchanged, every new row `i ≥ nOrig` replaced by
    `Pipeline.initUpdateRow` computed from the ORIGINAL `current_init` (the in-place source reads the rows it is
    itself rewriting, but only rows `indices[i, j] < nOrig`, which it never writes).  Rectangular shapes:
    `current_init` and `indices` have the same number of rows, of lengths `dim` resp. `k` (the source takes both
    column counts from row 0). -/
theorem initUpdate_src (ci : List (List α)) (nOrig dim k : Nat) (indices : List (List Nat))
    (hlen : ci.length = indices.length) (hdim : ∀ r ∈ ci, r.length = dim)
    (hk : ∀ r ∈ indices, r.length = k) :
    SrcUmap.initUpdate ci nOrig indices
      = (List.range ci.length).map (fun i =>
          if i < nOrig then ci.getD i []
          else Pipeline.initUpdateRow nOrig dim (fun j => ci.getD j []) (ci.getD i []) (indices.getD i [])) := by
  -- the model's new row `i`, from the original rows `< nOrig` and the current row `i`
  let H (i : Nat) (r : List α) : List α :=
    Pipeline.initUpdateRow nOrig dim (fun j => ci.getD j []) r (indices.getD i [])
  -- the outer loop keeps the shape and the rows `< nOrig`, which it never writes: it is a store loop on rows
  have h := foldl_range_enc id
    (fun _ st => st.length = ci.length ∧ (∀ r ∈ st, r.length = dim)
      ∧ ∀ j, j < nOrig → st.getD j [] = ci.getD j [])
    (fun st t => iuBody nOrig indices st (nOrig + t))
    (fun st t => st.set (nOrig + t) (H (nOrig + t) (st.getD (nOrig + t) []))) (ci.length - nOrig)
    (fun t st _ ⟨h1, h2, h3⟩ => ⟨(List.length_set ..).trans h1, rows_set h2 _ (C11.initUpdateRow_length ..),
      fun j hj => (getD_set_ne _ _ _ _ _ (Nat.ne_of_gt (Nat.lt_add_right t hj))).trans (h3 j hj)⟩)
    (fun t st ht ⟨h1, h2, h3⟩ =>
      have hiN : nOrig + t < ci.length := Nat.add_lt_of_lt_sub' ht
      (iuBody_eq nOrig dim k indices st _ (Nat.le_add_right ..) (h1 ▸ hiN) h2 hk (hlen ▸ hiN)).trans
        (congrArg (st.set _) (C11.initUpdateRow_congr nOrig dim _ _ _ _ h3)))
    ci ⟨rfl, hdim, fun _ _ => rfl⟩
  rw [initUpdate_unfold, SrcUmap.rangeFrom, List.foldl_map, ← hlen]
  exact h.trans (foldl_update_from H [] nOrig ci rfl)

/-- the body of the `for n in range(n_iters)` loop of `reprocess_row` on the state `(hi, mid, lo, brk0_)`
    (`brk0_`: the `break` was taken) -/
def rrStepSrc (T : Transc α) (infv : α) (probabilities : List α) (target : α)
    (st : α × α × α × Bool) (_n : Nat) : α × α × α × Bool :=
  if st.2.2.2 then st else
    let psum := (List.range probabilities.length).foldl
      (fun (psum : α) j => psum + T.pow (probabilities.getD j 0) st.2.1) 0
    if absV (psum - target) < 1 / ((100000 : Nat) : α) then (st.1, st.2.1, st.2.2.1, true)
    else
      let r : α × α × α :=
        if psum < target then (st.2.1, (st.2.2.1 + st.2.1) / ((2 : Nat) : α), st.2.2.1)
        else (st.1, if eqV st.1 infv then st.2.1 * ((2 : Nat) : α) else (st.2.1 + st.1) / ((2 : Nat) : α),
              st.2.1)
      (r.1, r.2.1, r.2.2, st.2.2.2)

theorem reprocessRow_src_unfold (T : Transc α) (infv : α) (ps : List α) (k : α) (n : Nat) :
    SrcUmap.reprocessRow T infv ps k n
      = ps.map (fun a => T.pow a
          ((List.range n).foldl (rrStepSrc T infv ps (T.log k / T.log ((2 : Nat) : α))) (infv, 1, 0, false)).2.1) :=
  rfl

end generic

section field
variable {K : Type} [Field K] [LinearOrder K]

theorem rr_psum (T : Transc K) (ps : List K) (mid : K) :
    (List.range ps.length).foldl (fun (st : K) (j : Nat) => st + T.pow (ps.getD j 0) mid) 0
      = sumL (ps.map (fun x => T.pow x mid)) := by
  rw [sumL, List.foldl_map, foldl_eq_foldl_range ps 0 rfl]

/-- the source state `(hi, mid, lo, brk0_)` of a model state: `hi = np.inf` is `none` -/
def rrEnc (infv : K) (s : Knn.BState K) : K × K × K × Bool := (s.hi.getD infv, s.mid, s.lo, s.done)

/-- the source step is the model step on encoded states; of the invariant it uses that a finite `hi` is not
    `infv` (the source tests `hi == np.inf`) -/
theorem rrStepSrc_enc (T : Transc K) (infv target : K) (ps : List K) (i : Nat) (s : Knn.BState K)
    (h : ∀ h, s.hi = some h → h < infv) :
    rrStepSrc T infv ps target (rrEnc infv s) i
      = rrEnc infv (C18.reprocessStep T (1 / ((100000 : Nat) : K)) target ps s i) := by
  have two : ((2 : Nat) : K) = 1 + 1 := by rw [Nat.cast_ofNat, one_add_one_eq_two]
  obtain ⟨lo, hi, mid, done⟩ := s
  cases done
  · simp only [rrStepSrc, C18.reprocessStep, rrEnc, rr_psum, two, Bool.false_eq_true, if_false]
    generalize sumL (ps.map fun x => T.pow x mid) = p
    by_cases h1 : absV (p - target) < 1 / ((100000 : Nat) : K)
    · rw [if_pos h1, if_pos h1]
    · rw [if_neg h1, if_neg h1]
      by_cases h2 : p < target
      · rw [if_pos h2, if_pos h2]; rfl
      · rw [if_neg h2, if_neg h2]
        cases hi with
        | none => rw [Option.getD_none, if_pos ((eqV_iff _ _).mpr rfl)]
        | some hv => rw [Option.getD_some, if_neg (fun h3 => (h hv rfl).ne ((eqV_iff _ _).mp h3))]
  · rfl

variable [IsStrictOrderedRing K]

/-- what the tie needs of the model state after `i` rounds: every finite `hi` is below `infv`, and as long as
    there is none, `mid` is a power of two the doubling can have reached in `i` rounds (the next `hi`, a `mid`, is
    then below `infv` too). -/
def rrInv (infv : K) (i : Nat) (s : Knn.BState K) : Prop :=
  Bracket.Bracket s ∧ (∀ h, s.hi = some h → h < infv) ∧ (s.hi = none → ∃ j ≤ i, s.mid = 2 ^ j)

theorem rrInv_step (infv : K) (i : Nat) (hi2 : ∀ j ≤ i, (2 : K) ^ j < infv) (stop down : Bool)
    (s : Knn.BState K) (h : rrInv infv i s) : rrInv infv (i + 1) (Bracket.bracketStep stop down s) := by
  obtain ⟨hb, hfin, hnone⟩ := h
  have hmid : s.hi = none → ∃ j ≤ i + 1, s.mid = 2 ^ j := fun hn =>
    (hnone hn).imp fun j h => ⟨Nat.le_succ_of_le h.1, h.2⟩
  refine ⟨Bracket.bracket_step stop down s hb, ?_⟩
  rcases Bracket.bracketStep_cases stop down s with
    ⟨_, e⟩ | ⟨_, _, e⟩ | ⟨_, _, _, e⟩ | ⟨_, _, _, hn, e⟩ | ⟨_, _, _, hv, hhi, e⟩ <;> rw [e]
  · exact ⟨hfin, hmid⟩
  · exact ⟨hfin, hmid⟩
  · -- the new `hi` is the old `mid`: below the old `hi`, or a power of two the doubling has reached
    refine ⟨fun h hh => Option.some.inj hh ▸ ?_, fun hn => nomatch hn⟩
    cases hhi : s.hi with
    | none =>
      obtain ⟨j, hj, hm⟩ := hnone hhi
      exact hm ▸ hi2 j hj
    | some hv => exact (hb.2.2 hv hhi).trans (hfin hv hhi)
  · -- still open: `mid` has doubled once more
    obtain ⟨j, hj, hm⟩ := hnone hn
    exact ⟨hfin, fun _ => ⟨j + 1, Nat.succ_le_succ hj, by rw [pow_succ, hm]⟩⟩
  · exact ⟨hfin, fun hn => nomatch hhi.symm.trans hn⟩

/-- `reprocess_row` as written (`hi : float`, initialised to `np.inf`, tested with `hi == np.inf`) =
    `Graph.reprocessRow` (`hi : Option`), for every `T` (so for every trajectory of the bisection), provided the
    value standing for `np.inf` is above every power of two the doubling phase can reach: `hinf`.
    (If some reachable `mid` equals `infv` the two differ: the source takes the finite `hi = infv` for "still
    unbounded" and doubles where the model bisects.) -/
theorem reprocessRow_src (T : Transc K) (infv : K) (ps : List K) (k : K) (n : Nat)
    (hinf : ∀ i, i < n → (2 : K) ^ i < infv) :
    SrcUmap.reprocessRow T infv ps k n
      = Graph.reprocessRow T (1 / ((100000 : Nat) : K)) (T.log k / T.log ((2 : Nat) : K)) n ps := by
  rw [reprocessRow_src_unfold, C18.reprocessRow_eq_state, C18.reprocessState]
  have h := foldl_range_enc (rrEnc infv) (rrInv infv)
    (rrStepSrc T infv ps (T.log k / T.log ((2 : Nat) : K))) _ n
    (fun i s hi hs => by
      rw [C18.reprocessStep_eq]
      exact rrInv_step infv i (fun j hj => hinf j (Nat.lt_of_le_of_lt hj hi)) _ _ s hs)
    (fun i s _ hs => rrStepSrc_enc T infv _ ps i s hs.2.1) Knn.bisectInit
    ⟨Bracket.bracket_init, fun h hh => (nomatch hh), fun _ => ⟨0, le_rfl, (pow_zero (2 : K)).symm⟩⟩
  exact congrArg (fun s => ps.map fun a => T.pow a s.2.1) h

theorem reprocessRow_src' (T : Transc K) (infv : K) (ps : List K) (k : K) (n : Nat)
    (hinf : (2 : K) ^ n < infv) :
    SrcUmap.reprocessRow T infv ps k n
      = Graph.reprocessRow T (1 / ((100000 : Nat) : K)) (T.log k / T.log ((2 : Nat) : K)) n ps :=
  reprocessRow_src T infv ps k n fun _ hi => (pow_le_pow_right₀ one_le_two hi.le).trans_lt hinf

/-- over an ordered field `¬ infv < infv` is automatic -/
theorem finiteMean_src_field (infv : K) (xs : List (Option K))
    (hfin : ∀ x, some x ∈ xs → -infv < x ∧ x < infv) :
    SrcUmap.finiteMean infv (xs.map (fun o => o.getD infv)) = Knn.finiteMean xs :=
  finiteMean_src infv (lt_irrefl infv) xs hfin

end field

section counterexamples

/-- a `Transc ℚ` with `exp _ = 2` and a chosen `pow` -/
def cexT (pw : ℚ → ℚ → ℚ) : Transc ℚ :=
  { exp := fun _ => 2, log := id, sqrt := id, pow := pw, sin := id, cos := id, asin := id,
    acosh := id, trunc := fun _ => 0, ofInt := fun z => (z : ℚ) }

/-- `hrow` of `fastIntersection_src` cannot be dropped: one stored entry at row `1` with a single label
    `target = [0]`.  The translated source reads `target.getD 1 0 = 0`, a label equal to that of column `0`, and
    leaves the value alone; the model has no label for row `1` and applies the unknown-label factor.
    (In Python the read `target[1]` is out of bounds — an `IndexError`, or undefined under numba.) -/
theorem fastIntersection_out_of_range :
    SrcUmap.fastIntersection (cexT fun x _ => x) [1] [0] [(1 : ℚ)] [0] 0 0
      ≠ (Graph.fastIntersection (cexT fun x _ => x) (labelsOf [0]) 0 0
          ([1].zip ([0].zip [(1 : ℚ)]))).map (·.2.2) := by
  decide +kernel

/-- `hinf` of `reprocessRow_src` cannot be dropped: with `infv = 2` and 3 iterations, a `pow` that makes the
    sum too large at `mid = 1`, too small at `mid = 2`, too large at `mid = 3/2`: the second step stores
    `hi = 2 = infv`; at the third the source takes `hi == inf` and doubles (`mid = 3`), the model bisects
    (`mid = 7/4`). -/
theorem reprocessRow_infv_reachable :
    SrcUmap.reprocessRow (cexT fun _ m => if m = 2 then 0 else 20 + m) 2 [1] 20 3
      ≠ Graph.reprocessRow (cexT fun _ m => if m = 2 then 0 else 20 + m) (1 / ((100000 : Nat) : ℚ))
          ((cexT fun _ m => if m = 2 then 0 else 20 + m).log 20
            / (cexT fun _ m => if m = 2 then 0 else 20 + m).log ((2 : Nat) : ℚ)) 3 [1] := by
  decide +kernel

end counterexamples

end UmapSrcProofs
end Umap
