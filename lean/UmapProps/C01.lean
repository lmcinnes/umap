/-
  C01 — every point's fuzzy neighbourhood is calibrated and locally connected.

  Model: `Umap.Knn` (umap_.py `smooth_knn_dist`, `compute_membership_strengths`), instantiated
  at ℝ with `realT`.  Clauses, one section each, in this order:
    (a) strength exactly 1 for the ⌊lc⌋ nearest distinct neighbours and all zero-distance ones;
    (b) strengths non-increasing in distance;
    (c) Σ strengths = log2 k within the tolerance once the search has converged (here); that 64
        steps do calibrate the sum within 1e-3 whenever a bandwidth in [2⁻²⁰, 2²⁰] achieves the
        total is `C01_calibration` in `C01Calibration.lean`;
    (d) bandwidth positive and ≥ the floor, the search value it is raised from at most `2 ^ n`
        (hence finite in float32);
    (e) homogeneity: scaling all distances, rho and the bandwidth by c > 0 leaves every strength and
        the calibration sum unchanged, and rho and the mean under the floor themselves scale (the
        search does not: `C03Scale.lean`, which lifts these row facts to tables and the graph).
  In front of (a): what the model's definitions give on each form of input.  Between (b) and (c):
  the invariant `Search` of the bandwidth search; (c), (d) and `C01Calibration.lean` are read off it.
-/
import UmapProofs.RealT
import UmapProofs.Bracket
import UmapModel.Knn
import Generated.Constants

namespace Umap
namespace C01
open Knn

/-! ### what the model's definitions give on each form of input (over ℝ, like everything in this file) -/

theorem psumTerm_fin_some (T : Transc ℝ) (r mid d : ℝ) :
    psumTerm T (.fin r) mid (some d) = if 0 < d - r then T.exp (-((d - r) / mid)) else 1 := rfl
theorem psumTerm_fin_none (T : Transc ℝ) (r mid : ℝ) : psumTerm T (.fin r) mid none = 0 := rfl
theorem psumTerm_inf (T : Transc ℝ) (mid : ℝ) (d : Option ℝ) : psumTerm T .inf mid d = 1 := by
  cases d <;> rfl
theorem psumTerm_nan (T : Transc ℝ) (mid : ℝ) (d : Option ℝ) : psumTerm T .nan mid d = 1 := by
  cases d <;> rfl

theorem psum_nil (T : Transc ℝ) (r : Ext ℝ) (σ : ℝ) : psum T r σ [] = 0 := sumL_nil

theorem psum_cons (T : Transc ℝ) (r : Ext ℝ) (σ : ℝ) (d : Option ℝ) (ds : List (Option ℝ)) :
    psum T r σ (d :: ds) = psumTerm T r σ d + psum T r σ ds := sumL_cons _ _

theorem nzDists_cons_none (row : List (Option ℝ)) : nzDists (none :: row) = none :: nzDists row :=
  rfl

theorem nzDists_cons_pos {x : ℝ} (h : 0 < x) (row : List (Option ℝ)) :
    nzDists (some x :: row) = some x :: nzDists row :=
  List.filter_cons_of_pos (by simpa using h)

theorem nzDists_cons_zero (row : List (Option ℝ)) : nzDists (some 0 :: row) = nzDists row :=
  List.filter_cons_of_neg (by simp)

theorem finiteMean_of_finites {row : List (Option ℝ)} {x : ℝ} {xs : List ℝ}
    (h : finites row = x :: xs) : finiteMean row = sumL (x :: xs) / ((xs.length + 1 : ℕ) : ℝ) := by
  unfold finiteMean
  rw [h]
  exact if_neg (Nat.succ_ne_zero _)

theorem member_eq_one_of_le {d r σ : ℝ} (h : d ≤ r) : member realT d r σ = 1 :=
  if_pos (Or.inl (sub_nonpos.2 h))

theorem member_zero (d r : ℝ) : member realT d r 0 = 1 :=
  if_pos (Or.inr ⟨le_rfl, le_rfl⟩)

/-! the branches of `rho`, in terms of the row's non-zero entries `nz` -/

section rho
variable {tol lcFrac : ℝ} {lcIdx : Nat} {row nz : List (Option ℝ)}

/-- fewer non-zero entries than `local_connectivity`. -/
theorem rho_of_too_few (hnz : nzDists row = nz) (h : ¬ (lcIdx : ℝ) + lcFrac ≤ (nz.length : ℝ)) :
    rho tol lcIdx lcFrac row = if 0 < nz.length then maxExt nz else .fin 0 := by
  unfold rho
  dsimp only
  rw [hnz, if_neg h]

/-- no interpolation (an integral `local_connectivity`): the `lcIdx`-th non-zero entry. -/
theorem rho_nearest (hnz : nzDists row = nz) (h : (lcIdx : ℝ) + lcFrac ≤ (nz.length : ℝ))
    (hidx : 0 < lcIdx) (ht : ¬ tol < lcFrac) :
    rho tol lcIdx lcFrac row = ((nz[lcIdx - 1]?).map ofOpt).getD (.fin 0) := by
  unfold rho
  dsimp only
  rw [hnz, if_pos h, if_pos hidx]
  cases nz[lcIdx - 1]? with
  | none => rfl
  | some a => exact if_neg ht

theorem rho_interp (hnz : nzDists row = nz) (h : (lcIdx : ℝ) + lcFrac ≤ (nz.length : ℝ))
    (hidx : 0 < lcIdx) (ht : tol < lcFrac) {a b : Option ℝ} (ha : nz[lcIdx - 1]? = some a)
    (hb : nz[lcIdx]? = some b) : rho tol lcIdx lcFrac row = interp a b lcFrac := by
  unfold rho
  dsimp only
  rw [hnz, if_pos h, if_pos hidx, ha]
  dsimp only
  rw [if_pos ht, hb]

/-- `local_connectivity < 1`: a fraction of the first non-zero entry. -/
theorem rho_zero_idx (hnz : nzDists row = nz) (h : ((0 : ℕ) : ℝ) + lcFrac ≤ (nz.length : ℝ)) :
    rho tol 0 lcFrac row = match nz[0]? with
      | none => .fin 0
      | some (some a) => .fin (lcFrac * a)
      | some none => if 0 < lcFrac then .inf else .nan := by
  unfold rho
  dsimp only
  rw [hnz, if_pos h, if_neg (lt_irrefl 0)]
  rcases nz[0]? with _ | _ | a <;> rfl

end rho

theorem ofOpt_ne_nan (a : Option ℝ) : ofOpt a ≠ .nan := by
  cases a <;> exact nofun

theorem maxExt_ne_nan (nz : List (Option ℝ)) : maxExt nz ≠ .nan := by
  unfold maxExt
  split <;> exact nofun

/-- the default `local_connectivity = 1.0`: rho is the smallest non-zero distance of the row
    (`0` if there is none), whatever the tolerance `≥ 0`. -/
theorem rho_default {tol : ℝ} (htol : 0 ≤ tol) (row : List (Option ℝ)) :
    rho tol 1 0 row = ((nzDists row).head?.map ofOpt).getD (.fin 0) := by
  rcases hnz : nzDists row with _ | ⟨a, t⟩
  · exact (rho_of_too_few hnz (by norm_num)).trans (if_neg (lt_irrefl 0))
  · exact rho_nearest hnz (by norm_num) one_pos (not_lt.2 htol)

/-- … on a row `[self, x, …]` with `x > 0`: the distance to the nearest neighbour. -/
theorem rho_default_nearest {tol : ℝ} (htol : 0 ≤ tol) {x : ℝ} (hx : 0 < x) (t : List (Option ℝ)) :
    rho tol 1 0 (some 0 :: some x :: t) = .fin x := by
  rw [rho_default htol, nzDists_cons_zero, nzDists_cons_pos hx]
  rfl

/-! ### (a) local connectivity: the ⌊lc⌋ nearest distinct neighbours are within rho -/

theorem nzDists_map_some (ds : List ℝ) :
    nzDists (ds.map some) = (ds.filter (fun x => decide (0 < x))).map some := by
  unfold nzDists
  rw [List.filter_map]
  rfl

/-- `rho` of a row whose non-zero entries `xs` are all finite and at least `local_connectivity`
    many: the `lcIdx`-th smallest, interpolated towards the next one by `lcFrac` (reading past the
    end gives the last entry again, as the model's `none` branches do). -/
noncomputable def rhoFin (tol : ℝ) (lcIdx : Nat) (lcFrac : ℝ) (xs : List ℝ) : ℝ :=
  if 0 < lcIdx then
    if tol < lcFrac then
      xs.getD (lcIdx - 1) 0 + lcFrac * (xs.getD lcIdx (xs.getD (lcIdx - 1) 0) - xs.getD (lcIdx - 1) 0)
    else xs.getD (lcIdx - 1) 0
  else lcFrac * xs.getD 0 0

theorem rho_eq_rhoFin {tol lcFrac : ℝ} {lcIdx : Nat} {row : List (Option ℝ)} {xs : List ℝ}
    (hnz : nzDists row = xs.map some) (hlen : (lcIdx : ℝ) + lcFrac ≤ (xs.length : ℝ)) :
    rho tol lcIdx lcFrac row = .fin (rhoFin tol lcIdx lcFrac xs) := by
  unfold rho rhoFin
  simp only [hnz, List.length_map, if_pos hlen, List.getElem?_map, List.getD_eq_getElem?_getD,
    apply_ite Ext.fin]
  -- the two sides make the same tests: compare them leaf by leaf
  refine if_congr Iff.rfl ?_ ?_
  · cases h : xs[lcIdx - 1]? with
    | none =>
      have : xs[lcIdx]? = none :=
        List.getElem?_eq_none_iff.2 ((List.getElem?_eq_none_iff.1 h).trans (Nat.sub_le _ _))
      simp [this]
    | some a =>
      refine if_congr Iff.rfl ?_ rfl
      cases xs[lcIdx]? with
      | none => simp [ofOpt]
      | some b => rfl
  · cases xs[0]? <;> simp

theorem le_rhoFin {tol lcFrac : ℝ} (h0 : 0 ≤ lcFrac) {lcIdx : Nat} {xs : List ℝ}
    (hs : xs.Pairwise (· ≤ ·)) (hpos : ∀ x ∈ xs, 0 < x) (hle : lcIdx ≤ xs.length) :
    0 ≤ rhoFin tol lcIdx lcFrac xs
      ∧ ∀ j (_ : j < lcIdx) (hj' : j < xs.length), xs[j] ≤ rhoFin tol lcIdx lcFrac xs := by
  unfold rhoFin
  by_cases hidx : 0 < lcIdx
  · rw [if_pos hidx]
    -- `a` is the `lcIdx`-th smallest, `b ≥ a` the next one (or `a` again)
    have h1 : lcIdx - 1 < xs.length := (Nat.sub_lt hidx one_pos).trans_le hle
    rw [List.getD_eq_getElem?_getD, List.getElem?_eq_getElem h1, Option.getD_some]
    have ha0 : 0 ≤ xs[lcIdx - 1] := (hpos _ (List.getElem_mem h1)).le
    have hja : ∀ j, j < lcIdx → ∀ hj' : j < xs.length, xs[j] ≤ xs[lcIdx - 1] :=
      fun j hj _ => hs.sortedLE.getElem_le_getElem_of_le (Nat.le_sub_one_of_lt hj)
    have hab : xs[lcIdx - 1] ≤ xs.getD lcIdx xs[lcIdx - 1] := by
      rw [List.getD_eq_getElem?_getD]
      cases h : xs[lcIdx]? with
      | none => exact le_rfl
      | some b =>
        obtain ⟨h2, rfl⟩ := List.getElem?_eq_some_iff.1 h
        exact hs.sortedLE.getElem_le_getElem_of_le (Nat.sub_le _ _)
    have hm := mul_nonneg h0 (sub_nonneg.2 hab)
    by_cases ht : tol < lcFrac
    · rw [if_pos ht]
      exact ⟨add_nonneg ha0 hm, fun j hj hj' => (hja j hj hj').trans (le_add_of_nonneg_right hm)⟩
    · rw [if_neg ht]; exact ⟨ha0, hja⟩
  · rw [if_neg hidx]
    refine ⟨mul_nonneg h0 ?_, fun j hj => absurd (Nat.zero_lt_of_lt hj) hidx⟩
    rw [List.getD_eq_getElem?_getD]
    cases h : xs[0]? with
    | none => exact le_rfl
    | some a => exact (hpos a (List.mem_of_getElem? h)).le

-- `htol` is not used: where the interpolation would read past the end, the model repeats the entry
set_option linter.unusedVariables false in
/--
  **C01 (a).** For a sorted row of finite distances whose number of non-zero entries is at
  least `local_connectivity = lcIdx + lcFrac` (`0 ≤ lcFrac`), `rho` is a finite, non-negative
  value that is at least each of the `lcIdx = ⌊lc⌋` smallest non-zero distances.  Hence (with
  `member_eq_one_of_le`) those neighbours, and every neighbour at distance 0, get strength
  exactly 1, whatever the bandwidth.
-/
theorem C01_local_connectivity (tol lcFrac : ℝ) (htol : 0 ≤ tol) (lcIdx : Nat) (ds : List ℝ)
    (hs : ds.Pairwise (· ≤ ·)) (h0 : 0 ≤ lcFrac)
    (hlen : (lcIdx : ℝ) + lcFrac ≤ ((ds.filter (fun x => decide (0 < x))).length : ℝ)) :
    ∃ ρ, rho tol lcIdx lcFrac (ds.map some) = .fin ρ ∧ 0 ≤ ρ ∧
      ∀ j (_ : j < lcIdx) (hj' : j < (ds.filter (fun x => decide (0 < x))).length),
        (ds.filter (fun x => decide (0 < x)))[j] ≤ ρ := by
  exact ⟨_, rho_eq_rhoFin (nzDists_map_some ds) hlen,
    le_rhoFin h0 (hs.filter _) (fun x hx => by simpa using (List.mem_filter.1 hx).2)
      (by exact_mod_cast (le_add_of_nonneg_right h0).trans hlen)⟩

/-- zero-distance neighbours (duplicates of the sample) always get strength 1. -/
theorem C01_zero_distance_full (tol lcFrac σ : ℝ) (htol : 0 ≤ tol) (lcIdx : Nat) (ds : List ℝ)
    (hs : ds.Pairwise (· ≤ ·)) (h0 : 0 ≤ lcFrac)
    (hlen : (lcIdx : ℝ) + lcFrac ≤ ((ds.filter (fun x => decide (0 < x))).length : ℝ)) :
    ∃ ρ, rho tol lcIdx lcFrac (ds.map some) = .fin ρ ∧ ∀ d, d ≤ 0 → member realT d ρ σ = 1 := by
  obtain ⟨ρ, h1, h2, _⟩ := C01_local_connectivity tol lcFrac htol lcIdx ds hs h0 hlen
  exact ⟨ρ, h1, fun d hd => member_eq_one_of_le (le_trans hd h2)⟩

/-- a concrete sorted row with a duplicate (distance 0) satisfies the hypotheses of (a). -/
example : ([0, 0, 1, 2, 3] : List ℝ).Pairwise (· ≤ ·) ∧
    ((1 : Nat) : ℝ) + 0.5 ≤ ((([0, 0, 1, 2, 3] : List ℝ).filter (fun x => decide (0 < x))).length : ℝ) := by
  constructor
  · -- `≤` is transitive: adjacent comparisons suffice
    refine List.isChain_iff_pairwise.1 ?_
    simp only [List.isChain_cons_cons, List.isChain_singleton, and_true]
    norm_num
  · simp only [List.filter_cons, List.filter_nil, decide_eq_true_eq, lt_self_iff_false, if_false,
      one_pos, two_pos, three_pos, if_true, List.length_cons, List.length_nil]
    norm_num

/-! ### (b) memberships: value 1 up to rho, strictly below 1 and decreasing beyond -/

/-- `member` and a term of the calibration sum are the same kernel — `exp (-((d - rho) / σ))` past
    rho, `1` up to it; only `member` special-cases `σ = 0`. -/
theorem member_eq_psumTerm {d r σ : ℝ} (hσ : σ ≠ 0) :
    member realT d r σ = psumTerm realT (.fin r) σ (some d) := by
  have hz : ¬ (σ ≤ 0 ∧ 0 ≤ σ) := fun h => hσ (le_antisymm h.1 h.2)
  rw [psumTerm_fin_some, member]
  by_cases h : 0 < d - r
  · rw [if_pos h, if_neg (not_or.2 ⟨not_le.2 h, hz⟩)]
  · rw [if_neg h, if_pos (Or.inl (not_lt.1 h))]

theorem member_of_lt {d r σ : ℝ} (hσ : 0 < σ) (h : r < d) :
    member realT d r σ = Real.exp (-((d - r) / σ)) := by
  rw [member_eq_psumTerm hσ.ne', psumTerm_fin_some, if_pos (sub_pos.2 h)]; rfl

theorem member_lt_one {d r σ : ℝ} (hσ : 0 < σ) (h : r < d) :
    0 < member realT d r σ ∧ member realT d r σ < 1 := by
  rw [member_of_lt hσ h]
  exact ⟨Real.exp_pos _, Real.exp_lt_one_iff.2 (neg_neg_of_pos (div_pos (sub_pos.2 h) hσ))⟩

/-- with a positive bandwidth a strength is exactly 1 iff the neighbour is within rho. -/
theorem member_eq_one_iff {d r σ : ℝ} (hσ : 0 < σ) : member realT d r σ = 1 ↔ d ≤ r :=
  ⟨fun h => not_lt.1 fun hc => (member_lt_one hσ hc).2.ne h, member_eq_one_of_le⟩

/-- (b) strengths are non-increasing in the distance. -/
theorem member_antitone {d d' r σ : ℝ} (hσ : 0 < σ) (h : d ≤ d') :
    member realT d' r σ ≤ member realT d r σ := by
  by_cases h1 : d ≤ r
  · rw [member_eq_one_of_le h1]
    by_cases h2 : d' ≤ r
    · rw [member_eq_one_of_le h2]
    · exact (member_lt_one hσ (not_le.1 h2)).2.le
  · have h1 := not_le.1 h1
    rw [member_of_lt hσ h1, member_of_lt hσ (h1.trans_le h)]
    exact Real.exp_le_exp.2 (neg_le_neg (div_le_div_of_nonneg_right (sub_le_sub_right h r) hσ.le))

theorem member_range {d r σ : ℝ} (hσ : 0 < σ) :
    0 < member realT d r σ ∧ member realT d r σ ≤ 1 := by
  by_cases h1 : d ≤ r
  · rw [member_eq_one_of_le h1]; exact ⟨one_pos, le_refl _⟩
  · push Not at h1
    exact ⟨(member_lt_one hσ h1).1, le_of_lt (member_lt_one hσ h1).2⟩

/-! ### the search: one invariant of `bisectStep`, from which (c) and (d) read what they need -/

section search
variable (tol target : ℝ) (r : Ext ℝ) (ds : List (Option ℝ))

theorem bisect_succ (n : Nat) :
    bisect realT tol target r ds (n + 1)
      = bisectStep realT tol target r ds (bisect realT tol target r ds n) :=
  foldl_range_succ _ _ n

theorem bisectStep_of_done {s : BState ℝ} (hd : s.done = true) :
    bisectStep realT tol target r ds s = s := if_pos hd

theorem bisectStep_break {s : BState ℝ} (hd : s.done = false)
    (hc : |psum realT r s.mid ds - target| < tol) :
    bisectStep realT tol target r ds s = { s with done := true } := by
  unfold bisectStep
  rw [if_neg (Bool.eq_false_iff.1 hd)]
  dsimp only
  rw [absV_eq_abs, if_pos hc]

theorem bisectStep_down {s : BState ℝ} (hd : s.done = false)
    (hc : tol ≤ |psum realT r s.mid ds - target|) (hg : target < psum realT r s.mid ds) :
    bisectStep realT tol target r ds s = { s with hi := some s.mid, mid := (s.lo + s.mid) / 2 } := by
  unfold bisectStep
  rw [if_neg (Bool.eq_false_iff.1 hd)]
  dsimp only
  rw [absV_eq_abs, if_neg (not_lt.2 hc), if_pos hg, one_add_one_eq_two]

theorem bisectStep_double {s : BState ℝ} (hd : s.done = false)
    (hc : tol ≤ |psum realT r s.mid ds - target|) (hg : psum realT r s.mid ds ≤ target)
    (hn : s.hi = none) :
    bisectStep realT tol target r ds s = { s with lo := s.mid, mid := s.mid * 2 } := by
  unfold bisectStep
  rw [if_neg (Bool.eq_false_iff.1 hd)]
  dsimp only
  rw [absV_eq_abs, if_neg (not_lt.2 hc), if_neg (not_lt.2 hg), hn, one_add_one_eq_two]

theorem bisectStep_up {s : BState ℝ} (hd : s.done = false)
    (hc : tol ≤ |psum realT r s.mid ds - target|) (hg : psum realT r s.mid ds ≤ target)
    {h : ℝ} (hh : s.hi = some h) :
    bisectStep realT tol target r ds s = { s with lo := s.mid, mid := (s.mid + h) / 2 } := by
  unfold bisectStep
  rw [if_neg (Bool.eq_false_iff.1 hd)]
  dsimp only
  rw [absV_eq_abs, if_neg (not_lt.2 hc), if_neg (not_lt.2 hg), hh, one_add_one_eq_two]

theorem bisectStep_cases (s : BState ℝ) :
    (s.done = true ∧ bisectStep realT tol target r ds s = s)
    ∨ (s.done = false ∧ |psum realT r s.mid ds - target| < tol
        ∧ bisectStep realT tol target r ds s = { s with done := true })
    ∨ (s.done = false ∧ tol ≤ |psum realT r s.mid ds - target| ∧ target < psum realT r s.mid ds
        ∧ bisectStep realT tol target r ds s
            = { s with hi := some s.mid, mid := (s.lo + s.mid) / 2 })
    ∨ (s.done = false ∧ tol ≤ |psum realT r s.mid ds - target| ∧ psum realT r s.mid ds ≤ target
        ∧ s.hi = none
        ∧ bisectStep realT tol target r ds s = { s with lo := s.mid, mid := s.mid * 2 })
    ∨ (s.done = false ∧ tol ≤ |psum realT r s.mid ds - target| ∧ psum realT r s.mid ds ≤ target
        ∧ ∃ h, s.hi = some h
        ∧ bisectStep realT tol target r ds s = { s with lo := s.mid, mid := (s.mid + h) / 2 }) := by
  rcases Bool.eq_false_or_eq_true s.done with hd | hd
  · exact .inl ⟨hd, bisectStep_of_done tol target r ds hd⟩
  rcases lt_or_ge |psum realT r s.mid ds - target| tol with hc | hc
  · exact .inr (.inl ⟨hd, hc, bisectStep_break tol target r ds hd hc⟩)
  rcases lt_or_ge target (psum realT r s.mid ds) with hg | hg
  · exact .inr (.inr (.inl ⟨hd, hc, hg, bisectStep_down tol target r ds hd hc hg⟩))
  rcases Option.eq_none_or_eq_some s.hi with hh | ⟨h, hh⟩
  · exact .inr (.inr (.inr (.inl ⟨hd, hc, hg, hh, bisectStep_double tol target r ds hd hc hg hh⟩)))
  · exact .inr (.inr (.inr (.inr ⟨hd, hc, hg, h, hh, bisectStep_up tol target r ds hd hc hg hh⟩)))

/-- Everything the search state satisfies after `n` iterations, as one invariant of `bisectStep`.
    `lo` and `hi` are points where the loop has *tested* the sum and not stopped; a closed bracket
    has `mid` at its midpoint and its upper end at most `2 ^ (n - 1)`; an open, un-stopped search
    has only doubled. -/
structure Search (n : Nat) (s : BState ℝ) : Prop where
  bracket : Bracket.Bracket s
  mid_le : s.mid ≤ 2 ^ n
  lo_tested : 0 < s.lo → psum realT r s.lo ds ≤ target ∧ tol ≤ |psum realT r s.lo ds - target|
  hi_tested : ∀ h, s.hi = some h →
    s.mid = (s.lo + h) / 2 ∧ h * 2 ≤ 2 ^ n ∧ target < psum realT r h ds
  broke : s.done = true → |psum realT r s.mid ds - target| < tol
  doubling : s.hi = none → s.done = false → s.mid = 2 ^ n ∧ (n = 0 ∨ s.lo * 2 = 2 ^ n)

variable {tol target r ds}

theorem Search.step {n : Nat} {s : BState ℝ} (H : Search tol target r ds n s) :
    Search tol target r ds (n + 1) (bisectStep realT tol target r ds s) := by
  have hb := Bracket.bracket_step (decide (absV (psum realT r s.mid ds - target) < tol))
    (decide (target < psum realT r s.mid ds)) s H.bracket
  rw [← Bracket.bisectStep_eq] at hb
  have hpow : (2:ℝ) ^ (n + 1) = 2 ^ n * 2 := pow_succ 2 n
  have hle : (2:ℝ) ^ n ≤ 2 ^ (n + 1) := pow_le_pow_right₀ one_le_two (Nat.le_succ n)
  -- a stopped loop keeps `lo`, `mid`, `hi`; only the bounds `2 ^ n` move
  have keep : ∀ s' : BState ℝ, Bracket.Bracket s' → s'.lo = s.lo → s'.mid = s.mid → s'.hi = s.hi →
      s'.done = true → |psum realT r s.mid ds - target| < tol →
      Search tol target r ds (n + 1) s' := by
    intro s' hb' e1 e2 e3 e4 hstop
    refine ⟨hb', e2 ▸ H.mid_le.trans hle, e1 ▸ H.lo_tested, fun h hh => ?_, fun _ => e2 ▸ hstop,
      fun _ hf => absurd e4 (Bool.eq_false_iff.1 hf)⟩
    obtain ⟨a, b, c⟩ := H.hi_tested h (e3 ▸ hh)
    exact ⟨e1 ▸ e2 ▸ a, b.trans hle, c⟩
  rcases bisectStep_cases tol target r ds s with
    ⟨hd, e⟩ | ⟨_, hstop, e⟩ | ⟨hd, ha, hg, e⟩ | ⟨hd, ha, hp, hn, e⟩ | ⟨hd, ha, hp, h, hh, e⟩ <;>
    rw [e] at hb ⊢
  · exact keep s hb rfl rfl rfl hd (H.broke hd)
  · exact keep _ hb rfl rfl rfl rfl hstop
  · -- the sum at `mid` is above the target: `mid` becomes the upper end
    exact ⟨hb, (add_div_two_lt_right.2 H.bracket.2.1).le.trans (H.mid_le.trans hle), H.lo_tested,
      fun h e' => by cases e'; exact ⟨rfl, hpow ▸ mul_le_mul_of_nonneg_right H.mid_le zero_le_two, hg⟩,
      fun hf => absurd hf (Bool.eq_false_iff.1 hd), fun hf => nomatch hf⟩
  · -- at most the target, bracket open: double
    have hm : s.mid * 2 = 2 ^ (n + 1) := by rw [(H.doubling hn hd).1, hpow]
    exact ⟨hb, hm.le, fun _ => ⟨hp, ha⟩,
      fun h e' => (Option.some_ne_none h (e'.symm.trans hn)).elim,
      fun hf => absurd hf (Bool.eq_false_iff.1 hd), fun _ _ => ⟨hm, Or.inr hm⟩⟩
  · -- at most the target, bracket closed: `mid` becomes the lower end
    obtain ⟨_, b, c⟩ := H.hi_tested h hh
    have hlt := hb.2.2 h hh
    have hpos : 0 ≤ h := hb.1.trans (hb.2.1.le.trans hlt.le)
    exact ⟨hb, hlt.le.trans ((le_mul_of_one_le_right hpos one_le_two).trans (b.trans hle)),
      fun _ => ⟨hp, ha⟩,
      fun h' e' => by cases hh.symm.trans e'; exact ⟨rfl, b.trans hle, c⟩,
      fun hf => absurd hf (Bool.eq_false_iff.1 hd),
      fun e' => (Option.some_ne_none h (hh.symm.trans e')).elim⟩

variable (tol target r ds)

theorem bisect_search (n : Nat) : Search tol target r ds n (bisect realT tol target r ds n) := by
  induction n with
  | zero =>
    exact ⟨Bracket.bracket_init, (pow_zero (2:ℝ)).ge,
      fun h => absurd h (lt_irrefl _), (fun h hh => nomatch hh), (fun h => nomatch h),
      fun _ _ => ⟨(pow_zero 2).symm, Or.inl rfl⟩⟩
  | succ n ih => rw [bisect_succ]; exact ih.step

variable {tol target r ds}

theorem Search.lo_strict {n : Nat} {s : BState ℝ} (H : Search tol target r ds n s) (htol : 0 < tol)
    (h : 0 < s.lo) : psum realT r s.lo ds < target := by
  obtain ⟨a, b⟩ := H.lo_tested h
  refine lt_of_le_of_ne a fun c => ?_
  rw [c, sub_self, abs_zero] at b
  exact absurd htol (not_lt.2 b)

theorem Search.mid_pos {n : Nat} {s : BState ℝ} (H : Search tol target r ds n s) : 0 < s.mid :=
  H.bracket.1.trans_lt H.bracket.2.1

end search

/-! ### (c) the calibration sum: monotone in the bandwidth, within the tolerance once the search has converged -/

/-- as a function of the bandwidth a term of the calibration sum is a constant in `[0, 1]` or
    `σ ↦ exp (-(x / σ))` with `x = d - rho > 0`. -/
theorem psumTerm_shape (r : Ext ℝ) (d : Option ℝ) :
    (∃ k : ℝ, 0 ≤ k ∧ k ≤ 1 ∧ ∀ σ, psumTerm realT r σ d = k)
    ∨ ∃ x : ℝ, 0 < x ∧ ∀ σ, psumTerm realT r σ d = Real.exp (-(x / σ)) := by
  rcases r with r | _ | _ <;> rcases d with _ | d
  · exact Or.inl ⟨0, le_rfl, zero_le_one, fun _ => rfl⟩
  · by_cases h : 0 < d - r
    · exact Or.inr ⟨d - r, h, fun σ => by rw [psumTerm_fin_some, if_pos h]; rfl⟩
    · exact Or.inl ⟨1, zero_le_one, le_rfl, fun σ => by rw [psumTerm_fin_some, if_neg h]⟩
  all_goals exact Or.inl ⟨1, zero_le_one, le_rfl, fun _ => rfl⟩

theorem psumTerm_mono {s t : ℝ} (hs : 0 < s) (hst : s ≤ t) (r : Ext ℝ) (d : Option ℝ) :
    psumTerm realT r s d ≤ psumTerm realT r t d := by
  rcases psumTerm_shape r d with ⟨k, _, _, e⟩ | ⟨x, hx, e⟩ <;> rw [e, e]
  exact Real.exp_le_exp.2 (neg_le_neg (div_le_div_of_nonneg_left hx.le hs hst))

theorem psum_mono_sigma {s t : ℝ} (hs : 0 < s) (hst : s ≤ t) (r : Ext ℝ) (ds : List (Option ℝ)) :
    psum realT r s ds ≤ psum realT r t ds :=
  sumL_map_le ds _ _ fun d _ => psumTerm_mono hs hst r d

/-- so a strictly smaller sum is reached at a strictly smaller bandwidth. -/
theorem lt_of_psum_lt {s t : ℝ} (ht : 0 < t) {r : Ext ℝ} {ds : List (Option ℝ)}
    (h : psum realT r s ds < psum realT r t ds) : s < t :=
  lt_of_not_ge fun hc => absurd (psum_mono_sigma ht hc r ds) (not_le.2 h)

theorem psumTerm_range {mid : ℝ} (hm : 0 < mid) (r : Ext ℝ) (d : Option ℝ) :
    0 ≤ psumTerm realT r mid d ∧ psumTerm realT r mid d ≤ 1 := by
  rcases psumTerm_shape r d with ⟨k, h0, h1, e⟩ | ⟨x, hx, e⟩ <;> rw [e]
  · exact ⟨h0, h1⟩
  · exact ⟨(Real.exp_pos _).le, Real.exp_le_one_iff.2 (neg_nonpos.2 (div_pos hx hm).le)⟩

theorem psum_le_length {mid : ℝ} (hm : 0 < mid) (r : Ext ℝ) (ds : List (Option ℝ)) :
    psum realT r mid ds ≤ (ds.length : ℝ) :=
  sumL_map_le_length ds _ fun d _ => (psumTerm_range hm r d).2

/-- convergence flag: once the loop has hit `break`, the calibration sum is within `tol`. -/
def DoneInv (tol target : ℝ) (r : Ext ℝ) (ds : List (Option ℝ)) (s : BState ℝ) : Prop :=
  s.done = true → |psum realT r s.mid ds - target| < tol

/-- bracket: below `lo` the sum is ≤ target, at `hi` it is > target (so by monotonicity the
    calibrated bandwidth, if any, lies in `[lo, hi]`). -/
def BracketInv (target : ℝ) (r : Ext ℝ) (ds : List (Option ℝ)) (s : BState ℝ) : Prop :=
  (0 < s.lo → psum realT r s.lo ds ≤ target) ∧ (∀ h, s.hi = some h → target < psum realT r h ds)

theorem bisect_done (tol target : ℝ) (r : Ext ℝ) (ds : List (Option ℝ)) (n : Nat) :
    DoneInv tol target r ds (bisect realT tol target r ds n) :=
  (bisect_search tol target r ds n).broke

theorem bisect_bracket (tol target : ℝ) (r : Ext ℝ) (ds : List (Option ℝ)) (n : Nat) :
    BracketInv target r ds (bisect realT tol target r ds n) :=
  ⟨fun h => ((bisect_search tol target r ds n).lo_tested h).1,
    fun h hh => ((bisect_search tol target r ds n).hi_tested h hh).2.2⟩

/-- the total strength a sample assigns to its neighbours *is* the calibration sum. -/
theorem members_sum_eq_psum {r σ : ℝ} (hσ : σ ≠ 0) (ds : List ℝ) :
    sumL (ds.map (fun d => member realT d r σ)) = psum realT (.fin r) σ (ds.map some) := by
  unfold psum
  rw [List.map_map]
  exact congrArg sumL (List.map_congr_left fun d _ => member_eq_psumTerm hσ)

/--
  **C01 (c), given convergence.** Whenever the search has converged (hit its `break`) and the
  floor does not override the result, the strengths of the row total `log2 k` within the
  tolerance.  (That 64 steps do bring the total within 1e-3 whenever a bandwidth in `[2⁻²⁰, 2²⁰]`
  achieves it is `C01_calibration`.)
-/
theorem C01_calibration_partial (tol target : ℝ) (r : ℝ) (ds : List ℝ) (n : Nat)
    (hdone : (bisect realT tol target (.fin r) (ds.map some) n).done = true) :
    let σ := (bisect realT tol target (.fin r) (ds.map some) n).mid
    |sumL (ds.map (fun d => member realT d r σ)) - target| < tol := by
  intro σ
  rw [members_sum_eq_psum (bisect_search tol target (.fin r) (ds.map some) n).mid_pos.ne']
  exact bisect_done tol target (.fin r) (ds.map some) n hdone

/-! ### (d) the bandwidth: positive, at least the floor; the search value bounded -/

def BInv (n : Nat) (s : BState ℝ) : Prop :=
  0 ≤ s.lo ∧ s.lo < s.mid ∧ s.mid ≤ 2 ^ n ∧ (∀ h, s.hi = some h → s.mid < h ∧ h ≤ 2 ^ n)

theorem bisect_inv (tol target : ℝ) (r : Ext ℝ) (ds : List (Option ℝ)) (n : Nat) :
    BInv n (bisect realT tol target r ds n) := by
  have H := bisect_search tol target r ds n
  obtain ⟨h0, h1, h2⟩ := H.bracket
  refine ⟨h0, h1, H.mid_le, fun h hh => ⟨h2 h hh, ?_⟩⟩
  -- `Search` knows `h * 2 ≤ 2 ^ n`
  have hpos : 0 ≤ h := h0.trans (h1.le.trans (h2 h hh).le)
  exact (le_mul_of_one_le_right hpos one_le_two).trans (H.hi_tested h hh).2.1

theorem applyFloor_eq_max (minScale σ gm : ℝ) (r : Ext ℝ) (row : List (Option ℝ)) :
    applyFloor minScale σ r row gm
      = max σ (minScale * (if extPos r then finiteMean row else gm)) :=
  maxV_eq_max σ _  -- `applyFloor` is `maxV σ (minScale * m)` written out

theorem extPos_fin (r : ℝ) : extPos (.fin r) = true ↔ 0 < r := decide_eq_true_iff

theorem smoothKnnRow_snd (T : Transc ℝ) (tol minScale target : ℝ) (lcIdx : Nat) (lcFrac : ℝ)
    (n : Nat) (gm : ℝ) (row : List (Option ℝ)) :
    (smoothKnnRow T tol minScale target lcIdx lcFrac n gm row).2 = rho tol lcIdx lcFrac row := rfl

/-- the bandwidth of a row: the result of the search, raised to the floor. -/
theorem smoothKnnRow_fst (tol minScale target : ℝ) (lcIdx : Nat) (lcFrac : ℝ) (n : Nat) (gm : ℝ)
    (row : List (Option ℝ)) :
    (smoothKnnRow realT tol minScale target lcIdx lcFrac n gm row).1
      = max (bisect realT tol target (rho tol lcIdx lcFrac row) row.tail n).mid
          (minScale * (if extPos (rho tol lcIdx lcFrac row) then finiteMean row else gm)) :=
  applyFloor_eq_max ..

/--
  **C01 (d).** For every row (finite or with `inf` entries), every `k`, `local_connectivity` and
  iteration count `n`: the bandwidth is positive, at least the floor `minScale · mean`, and the
  search value it is derived from is at most `2 ^ n` (so with `n = 64` it is representable —
  finite — in float32, whose largest power of two is `2 ^ 127`).
-/
theorem C01_sigma_pos_floor (tol minScale target : ℝ) (lcIdx : Nat) (lcFrac : ℝ) (n : Nat) (gm : ℝ)
    (row : List (Option ℝ)) :
    let out := smoothKnnRow realT tol minScale target lcIdx lcFrac n gm row
    0 < out.1
    ∧ minScale * (if extPos out.2 then finiteMean row else gm) ≤ out.1
    ∧ (bisect realT tol target out.2 row.tail n).mid ≤ 2 ^ n := by
  intro out
  have H := bisect_search tol target (rho tol lcIdx lcFrac row) row.tail n
  have e := smoothKnnRow_fst tol minScale target lcIdx lcFrac n gm row
  exact ⟨e ▸ H.mid_pos.trans_le (le_max_left _ _), e ▸ le_max_right _ _, H.mid_le⟩

/-! ### (e) homogeneity: how each ingredient of a row's computation scales -/

def scaleExt (c : ℝ) : Ext ℝ → Ext ℝ
  | .fin r => .fin (c * r)
  | .inf => .inf
  | .nan => .nan

/-- a kNN-distance row with every finite entry multiplied by `c` (`inf` entries stay `inf`). -/
def scaleRow (c : ℝ) (row : List (Option ℝ)) : List (Option ℝ) :=
  row.map (fun d => d.map (c * ·))

/-- any bandwidth, `0` included: `c x / (c · 0) = x / 0`. -/
theorem psumTerm_scale {c : ℝ} (hc : 0 < c) (mid : ℝ) (r : Ext ℝ) (d : Option ℝ) :
    psumTerm realT (scaleExt c r) (c * mid) (d.map (c * ·)) = psumTerm realT r mid d := by
  rcases r with r | _ | _ <;> rcases d with _ | d <;> try rfl
  simp only [scaleExt, Option.map_some, psumTerm_fin_some, ← mul_sub,
    mul_div_mul_left _ _ hc.ne', mul_pos_iff_of_pos_left hc]

/-- (e) the calibration sum is homogeneous of degree 0: scaling distances, rho and the bandwidth
    by the same `c > 0` leaves it unchanged; so σ solves the calibration equation for a row iff
    `c σ` solves it for the scaled row. -/
theorem psum_scale {c : ℝ} (hc : 0 < c) (mid : ℝ) (r : Ext ℝ) (ds : List (Option ℝ)) :
    psum realT (scaleExt c r) (c * mid) (scaleRow c ds) = psum realT r mid ds := by
  unfold psum scaleRow
  rw [List.map_map]
  exact congrArg sumL (List.map_congr_left fun d _ => psumTerm_scale hc mid r d)

theorem member_scale {c d r σ : ℝ} (hc : 0 < c) :
    member realT (c * d) (c * r) (c * σ) = member realT d r σ := by
  rcases eq_or_ne σ 0 with rfl | hσ
  · rw [mul_zero, member_zero, member_zero]
  · rw [member_eq_psumTerm hσ, member_eq_psumTerm (mul_ne_zero hc.ne' hσ)]
    exact psumTerm_scale hc σ (.fin r) (some d)

theorem memberExt_scale {c : ℝ} (hc : 0 < c) (x : ℝ) (ρ : Ext ℝ) (σ : ℝ) :
    memberExt realT (c * x) (scaleExt c ρ) (c * σ) = memberExt realT x ρ σ := by
  cases ρ with
  | fin r => exact congrArg some (member_scale hc)
  | inf => rfl
  | nan =>
    -- the test `sigma == 0`
    have : (c * σ ≤ 0 ∧ 0 ≤ c * σ) ↔ (σ ≤ 0 ∧ 0 ≤ σ) := by
      rw [← le_antisymm_iff, ← le_antisymm_iff, mul_eq_zero, or_iff_right hc.ne']
    simp only [memberExt, scaleExt, this]

theorem extPos_scaleExt {c : ℝ} (hc : 0 < c) (ρ : Ext ℝ) : extPos (scaleExt c ρ) = extPos ρ := by
  cases ρ with
  | fin r =>
    exact Bool.eq_iff_iff.2 (by rw [scaleExt, extPos_fin, extPos_fin, mul_pos_iff_of_pos_left hc])
  | inf => rfl
  | nan => rfl

theorem scaleRow_map_some (c : ℝ) (ds : List ℝ) :
    scaleRow c (ds.map some) = (ds.map (c * ·)).map some := by
  unfold scaleRow
  simp only [List.map_map]
  rfl

theorem scaleRow_length (c : ℝ) (row : List (Option ℝ)) : (scaleRow c row).length = row.length :=
  List.length_map ..

theorem scaleRow_getElem? (c : ℝ) (row : List (Option ℝ)) (i : Nat) :
    (scaleRow c row)[i]? = (row[i]?).map (fun d => d.map (c * ·)) :=
  List.getElem?_map ..

theorem scaleRow_tail (c : ℝ) (row : List (Option ℝ)) :
    (scaleRow c row).tail = scaleRow c row.tail := by
  cases row <;> simp [scaleRow]

theorem zip_scaleRow {β : Type} (c : ℝ) (ix : List β) (d : List (Option ℝ)) :
    ix.zip (scaleRow c d) = (ix.zip d).map fun p => (p.1, p.2.map (c * ·)) :=
  List.zip_map_right ..

theorem nzDists_scale {c : ℝ} (hc : 0 < c) (row : List (Option ℝ)) :
    nzDists (scaleRow c row) = scaleRow c (nzDists row) := by
  unfold nzDists scaleRow
  rw [List.filter_map]
  congr 1
  apply List.filter_congr
  intro d _
  cases d with
  | none => rfl
  | some x => simp [mul_pos_iff_of_pos_left hc]

theorem finites_scale (c : ℝ) (row : List (Option ℝ)) :
    finites (scaleRow c row) = (finites row).map (c * ·) := by
  unfold finites scaleRow
  rw [List.filterMap_map, List.map_filterMap]
  rfl

theorem any_isNone_scale (c : ℝ) (row : List (Option ℝ)) :
    (scaleRow c row).any (·.isNone) = row.any (·.isNone) := by
  unfold scaleRow
  rw [List.any_map]
  exact congrArg _ (funext fun d => Option.isNone_map)

theorem maxExt_scale {c : ℝ} (hc : 0 < c) (nz : List (Option ℝ)) :
    maxExt (scaleRow c nz) = scaleExt c (maxExt nz) := by
  unfold maxExt
  rw [any_isNone_scale, finites_scale]
  split_ifs with h
  · rfl
  · have := maxL_mul_left hc.le 0 (finites nz)
    rw [mul_zero] at this
    rw [this]; rfl

theorem ofOpt_scale (c : ℝ) (a : Option ℝ) :
    ofOpt (a.map (c * ·)) = scaleExt c (ofOpt a) := by
  cases a <;> rfl

theorem interp_scale (c t : ℝ) (a b : Option ℝ) :
    interp (a.map (c * ·)) (b.map (c * ·)) t = scaleExt c (interp a b t) := by
  cases a <;> cases b <;> simp only [Option.map_some, Option.map_none, interp, scaleExt]
  congr 1; ring

/-- **rho is homogeneous of degree 1** (rows that may contain `inf` entries).  `tol` is compared
    with `lcFrac`, never with a distance, so it is *not* scaled. -/
theorem rho_scale_row {c : ℝ} (hc : 0 < c) (tol lcFrac : ℝ) (lcIdx : Nat) (row : List (Option ℝ)) :
    rho tol lcIdx lcFrac (scaleRow c row) = scaleExt c (rho tol lcIdx lcFrac row) := by
  unfold rho
  simp only [nzDists_scale hc, scaleRow_length, scaleRow_getElem?, apply_ite (scaleExt c)]
  generalize nzDists row = nz
  have h0 : Ext.fin 0 = scaleExt c (.fin 0) := congrArg Ext.fin (mul_zero c).symm
  -- the tests are about `nz.length`, `lcIdx`, `lcFrac` and `tol` only, the same on both sides:
  -- what is left is that each leaf commutes with the scaling
  refine if_congr Iff.rfl (if_congr Iff.rfl ?_ ?_) (if_congr Iff.rfl (maxExt_scale hc nz) h0)
  · cases nz[lcIdx - 1]? with
    | none => exact h0
    | some a =>
      simp only [Option.map_some, apply_ite (scaleExt c)]
      refine if_congr Iff.rfl ?_ (ofOpt_scale c a)
      cases nz[lcIdx]? with
      | none => exact ofOpt_scale c a
      | some b => exact interp_scale c lcFrac a b
  · rcases nz[0]? with _ | _ | a
    · exact h0
    · exact (apply_ite (scaleExt c) (0 < lcFrac) .inf .nan).symm
    · exact congrArg Ext.fin (mul_left_comm ..)

theorem rho_scale {c : ℝ} (hc : 0 < c) (tol lcFrac : ℝ) (lcIdx : Nat) (ds : List ℝ) :
    rho tol lcIdx lcFrac ((ds.map (c * ·)).map some)
      = scaleExt c (rho tol lcIdx lcFrac (ds.map some)) := by
  rw [← scaleRow_map_some]; exact rho_scale_row hc tol lcFrac lcIdx _

theorem finiteMean_scale_row (c : ℝ) (row : List (Option ℝ)) :
    finiteMean (scaleRow c row) = c * finiteMean row := by
  unfold finiteMean
  have e : sumL ((finites row).map (c * ·)) = c * sumL (finites row) := by
    simpa using sumL_map_mul_left c id (finites row)
  simp only [finites_scale, List.length_map, e]
  split_ifs with h
  · simp
  · rw [mul_div_assoc]

theorem finiteMean_scale (c : ℝ) (ds : List ℝ) :
    finiteMean ((ds.map (c * ·)).map some) = c * finiteMean (ds.map some) := by
  rw [← scaleRow_map_some]; exact finiteMean_scale_row c _

/-- `σ` solves the calibration equation of a row iff `c σ` solves that of the row scaled by `c`
    (with rho scaled accordingly); any extended rho, any `σ`. -/
theorem solution_scales_ext {c : ℝ} (hc : 0 < c) (σ : ℝ) (r : Ext ℝ) (target : ℝ)
    (ds : List (Option ℝ)) :
    psum realT r σ ds = target
      ↔ psum realT (scaleExt c r) (c * σ) (scaleRow c ds) = target := by
  rw [psum_scale hc]

-- over ℝ, `hσ` is not used (`solution_scales_ext`); in floats `σ = 0` divides by zero
set_option linter.unusedVariables false in
theorem solution_scales {c σ : ℝ} (hc : 0 < c) (hσ : σ ≠ 0) (r target : ℝ)
    (ds : List (Option ℝ)) :
    psum realT (.fin r) σ ds = target
      ↔ psum realT (.fin (c * r)) (c * σ) (scaleRow c ds) = target := by
  exact solution_scales_ext hc σ (.fin r) target ds

-- `hσ`: as for `solution_scales`
set_option linter.unusedVariables false in
/--
  **whole-row form**: with rho *computed* from the row (`rho_scale_row`), `σ` calibrates a row iff
  `c σ` calibrates the scaled row — so the calibrated bandwidth of the scaled table is the scaled
  bandwidth, and by `member_scale` every membership strength is unchanged.
-/
theorem solution_scales_row {c σ : ℝ} (hc : 0 < c) (hσ : σ ≠ 0) (tol lcFrac target : ℝ)
    (lcIdx : Nat) (row : List (Option ℝ)) :
    psum realT (rho tol lcIdx lcFrac row) σ row.tail = target
      ↔ psum realT (rho tol lcIdx lcFrac (scaleRow c row)) (c * σ) (scaleRow c row).tail
          = target := by
  rw [rho_scale_row hc, scaleRow_tail]
  exact solution_scales_ext hc σ _ target _

/-- `solution_scales`, `rho_scale`: `c = 2`, `σ = 1` satisfy the side conditions. -/
example : (0:ℝ) < 2 ∧ (1:ℝ) ≠ 0 := by norm_num

/-! ### the constants of the live code (regenerated from /repo on every run) -/

/-- the search tolerance of the live code is positive and below the property's 1e-3;
    the floor factor is one thousandth (as a float); 64 iterations keep `2^n` inside float32. -/
theorem C01_live_constants :
    0 < Generated.smoothKTolerance ∧ Generated.smoothKTolerance ≤ 1 / 1000
    ∧ 999 / 1000000 ≤ Generated.minKDistScale ∧ Generated.minKDistScale ≤ 1001 / 1000000
    ∧ Generated.smoothKnnNIter = 64 := by
  decide +kernel

end C01
end Umap