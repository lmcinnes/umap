/-
  C04 (pipeline) — the exact (small-data) neighbour stage end to end:
  distance matrix → disconnection threshold → kNN table → fitted graph.

  Model: `Umap.KnnStage` (`cut` / `threshold` = `dmat[dmat >= disconnection_distance] = np.inf`,
  `argsortExt` = the per-row `argsort` of `fast_knn_indices` with `inf` largest,
  `knnRow` / `exactStage` = `nearest_neighbors(…, metric="precomputed")` including
  `knn_indices[knn_dists == inf] = -1`), followed by `Umap.Graph.graphOfKnn`
  (`fuzzy_simplicial_set` from the table on), instantiated at ℝ with `realT`.
-/
import UmapModel.KnnStage
import UmapProps.C02Pipeline
import UmapProofs.InsertSort
import Mathlib.Order.WithBot
import Mathlib.Tactic.IntervalCases

namespace Umap
namespace C04
open KnnStage

section Order
variable {K : Type} [LinearOrder K]

/-- `a ≤ b` on extended values, `none = +inf`. -/
def extLe : Option K → Option K → Prop
  | some a, some b => a ≤ b
  | _, none => True
  | none, some _ => False

/-- `a < b` on extended values, `none = +inf` (`inf < inf` is false). -/
def extLt : Option K → Option K → Prop
  | some a, some b => a < b
  | some _, none => True
  | none, _ => False

/-- the same value read in Mathlib's `WithTop K` (`Option K` with `none` as top element). -/
def up (a : Option K) : WithTop K := a

omit [LinearOrder K] in
@[simp] theorem up_some (a : K) : up (some a) = (a : WithTop K) := rfl
omit [LinearOrder K] in
@[simp] theorem up_none : up (none : Option K) = ⊤ := rfl

omit [LinearOrder K] in
theorem up_inj {a b : Option K} : up a = up b ↔ a = b := Iff.rfl

theorem extLe_iff_up (a b : Option K) : extLe a b ↔ up a ≤ up b := by
  cases a with
  | none => cases b with
    | none => exact iff_of_true trivial le_rfl
    | some b => exact iff_of_false id (WithTop.not_top_le_coe b)
  | some a => cases b with
    | none => exact iff_of_true trivial le_top
    | some b => exact WithTop.coe_le_coe.symm

theorem extLt_iff_up (a b : Option K) : extLt a b ↔ up a < up b := by
  cases a with
  | none => exact iff_of_false id not_top_lt
  | some a => cases b with
    | none => exact iff_of_true trivial (WithTop.coe_lt_top a)
    | some b => exact WithTop.coe_lt_coe.symm

theorem ltExt_iff (a b : Option K) : ltExt a b = true ↔ extLt a b := by
  cases a <;> cases b <;> simp [ltExt, extLt]

theorem ltExt_iff_up (a b : Option K) : ltExt a b = true ↔ up a < up b :=
  (ltExt_iff a b).trans (extLt_iff_up a b)

theorem extLe_none (a : Option K) : extLe a none := by cases a <;> trivial

theorem extLe_of_not_extLt {a b : Option K} (h : ¬ extLt a b) : extLe b a := by
  rw [extLt_iff_up] at h; rw [extLe_iff_up]; exact not_lt.1 h

end Order

section Argsort
variable {K : Type} [LinearOrder K]

theorem insertExt_eq (key : Nat → Option K) (i : Nat) (l : List Nat) :
    insertExt key i l = Spectral.insertBy (fun j => up (key j)) i l := by
  induction l with
  | nil => rfl
  | cons j t ih => simp only [insertExt, Spectral.insertBy, ih, ltExt_iff_up]

theorem argsortExt_eq (row : List (Option K)) :
    argsortExt row = Spectral.sortIdx (fun j => up (row.getD j none)) row.length := by
  unfold argsortExt
  simp only [insertExt_eq]

theorem argsortExt_perm (row : List (Option K)) :
    (argsortExt row).Perm (List.range row.length) := by
  rw [argsortExt_eq]
  exact Spectral.sortIdx_perm _ _

theorem argsortExt_length (row : List (Option K)) : (argsortExt row).length = row.length := by
  rw [argsortExt_eq]
  exact Spectral.sortIdx_length _ _

theorem argsortExt_nodup (row : List (Option K)) : (argsortExt row).Nodup := by
  rw [argsortExt_eq]
  exact Spectral.sortIdx_nodup _ _

theorem mem_argsortExt {row : List (Option K)} {c : Nat} :
    c ∈ argsortExt row ↔ c < row.length := by
  rw [argsortExt_eq]
  exact Spectral.mem_sortIdx _

theorem argsortExt_sorted (row : List (Option K)) :
    (argsortExt row).Pairwise (fun a b => extLe (row.getD a none) (row.getD b none)) := by
  rw [argsortExt_eq]
  exact (Spectral.sortIdx_sorted _ _).imp fun h => (extLe_iff_up _ _).2 h

/-- an index whose value is strictly below all others comes first. -/
theorem argsortExt_head (row : List (Option K)) (i : Nat) (hi : i < row.length)
    (hothers : ∀ l, l < row.length → l ≠ i → extLt (row.getD i none) (row.getD l none)) :
    (argsortExt row)[0]? = some i := by
  obtain ⟨d, t, hd, hdlt, hmin⟩ :=
    Spectral.sortIdx_eq_cons (fun j => up (row.getD j none)) (Nat.zero_lt_of_lt hi)
  rw [argsortExt_eq, hd]
  by_contra hne
  exact not_le.2 ((extLt_iff_up _ _).1 (hothers d hdlt fun e => hne (by rw [e]; rfl))) (hmin i hi)

/-- `argsortExt` is stable: strictly increasing values, or equal values in index order. -/
theorem argsortExt_stable (row : List (Option K)) :
    (argsortExt row).Pairwise (fun a b =>
      extLt (row.getD a none) (row.getD b none)
        ∨ (row.getD a none = row.getD b none ∧ a < b)) := by
  rw [argsortExt_eq]
  exact (Spectral.sortIdx_stable _ _).imp
    (fun {a b} h => h.imp (extLt_iff_up _ _).2 (fun h' => ⟨up_inj.1 h'.1, h'.2⟩))

/-- the stable sort is unique: a list of the indices `0 .. len-1` in strictly increasing
    (value, index) order is `argsortExt row`. -/
theorem argsortExt_eq_of_stable (row : List (Option K)) (l : List Nat)
    (hp : l.Perm (List.range row.length))
    (hs : l.Pairwise (fun a b => extLt (row.getD a none) (row.getD b none)
        ∨ (row.getD a none = row.getD b none ∧ a < b))) :
    argsortExt row = l := by
  rw [argsortExt_eq]
  exact Spectral.sortIdx_eq_of_stable _ hp
    (hs.imp fun h => h.imp (extLt_iff_up _ _).1 fun h' => ⟨up_inj.2 h'.1, h'.2⟩)

end Argsort

section Row
variable {K : Type} [LinearOrder K]

theorem cut_eq_some {thr : Option K} {y x : K} :
    cut thr y = some x ↔ x = y ∧ ∀ t, thr = some t → y < t := by
  cases thr with
  | none => simp [cut, eq_comm]
  | some t =>
    simp only [cut, Option.some.injEq, forall_eq']
    split_ifs with h
    · simp only [false_iff, not_and, not_lt]; exact fun _ => h
    · simp only [Option.some.injEq]
      exact ⟨fun e => ⟨e.symm, not_le.1 h⟩, fun e => e.1.symm⟩

theorem cut_eq_none {thr : Option K} {y : K} :
    cut thr y = none ↔ ∃ t, thr = some t ∧ t ≤ y := by
  cases thr with
  | none => exact iff_of_false (fun h => nomatch h) (fun ⟨_, h, _⟩ => nomatch h)
  | some t =>
    show (if t ≤ y then none else some y) = none ↔ _
    split_ifs with h
    · exact iff_of_true rfl ⟨t, rfl, h⟩
    · exact iff_of_false (fun h => nomatch h) (fun ⟨_, e, h'⟩ => h (Option.some.inj e ▸ h'))

/-- a value below `b` stays below what thresholding makes of `b`. -/
theorem extLt_some_cut {thr : Option K} {a b : K} (h : a < b) : extLt (some a) (cut thr b) := by
  cases hb : cut thr b with
  | none => trivial
  | some y =>
    obtain ⟨rfl, _⟩ := cut_eq_some.1 hb
    exact h

/-- thresholding reflects the order at a value below the threshold. -/
theorem le_of_extLe_cut {thr : Option K} {a b : K} (ha : ∀ t, thr = some t → a < t)
    (h : extLe (cut thr a) (cut thr b)) : a ≤ b := by
  rw [cut_eq_some.2 ⟨rfl, ha⟩] at h
  cases hb : cut thr b with
  | none =>
    obtain ⟨t, ht, hle⟩ := cut_eq_none.1 hb
    exact ((ha t ht).trans_le hle).le
  | some y =>
    rw [hb] at h
    obtain ⟨rfl, _⟩ := cut_eq_some.1 hb
    exact h

theorem knnRow_fst (k : Nat) (row : List (Option K)) :
    (knnRow k row).1
      = ((argsortExt row).take k).map (fun j => (row.getD j none).map (fun _ => j)) := rfl

theorem knnRow_snd (k : Nat) (row : List (Option K)) :
    (knnRow k row).2 = ((argsortExt row).take k).map (fun j => row.getD j none) := rfl

theorem knnRow_take {k k' : Nat} (h : k ≤ k') (row : List (Option K)) :
    knnRow k row = ((knnRow k' row).1.take k, (knnRow k' row).2.take k) := by
  rw [knnRow_fst, knnRow_snd, ← List.map_take, ← List.map_take, List.take_take, Nat.min_eq_left h]
  rfl

theorem knnRow_length (k : Nat) (row : List (Option K)) :
    (knnRow k row).1.length = min k row.length ∧ (knnRow k row).2.length = min k row.length := by
  rw [knnRow_fst, knnRow_snd, List.length_map, List.length_map, List.length_take, argsortExt_length]
  exact ⟨rfl, rfl⟩

theorem knnRow_distinct (k : Nat) (row : List (Option K)) :
    ((knnRow k row).1.filterMap id).Nodup := by
  rw [knnRow_fst, List.filterMap_map]
  refine List.Nodup.filterMap ?_ ((argsortExt_nodup row).sublist (List.take_sublist _ _))
  intro a a' b hb hb'
  simp only [Function.comp, id, Option.mem_def, Option.map_eq_some_iff] at hb hb'
  obtain ⟨_, _, rfl⟩ := hb
  obtain ⟨_, _, rfl⟩ := hb'
  rfl

theorem knnRow_skip_iff (k : Nat) (row : List (Option K)) :
    ∀ p ∈ (knnRow k row).1.zip (knnRow k row).2, (p.1 = none ↔ p.2 = none) := by
  intro p hp
  rw [knnRow_fst, knnRow_snd, List.zip_map', List.mem_map] at hp
  obtain ⟨j, _, rfl⟩ := hp
  exact Option.map_eq_none_iff

theorem knnRow_fst_getElem? (k : Nat) (row : List (Option K)) (c j : Nat) :
    (knnRow k row).1[c]? = some (some j)
      ↔ ((argsortExt row).take k)[c]? = some j ∧ ∃ x, row.getD j none = some x := by
  rw [knnRow_fst, List.getElem?_map, Option.map_eq_some_iff]
  constructor
  · rintro ⟨a, ha, h⟩
    obtain ⟨x, hx, rfl⟩ := Option.map_eq_some_iff.1 h
    exact ⟨ha, x, hx⟩
  · rintro ⟨ha, x, hx⟩
    exact ⟨j, ha, by rw [hx]; rfl⟩

theorem knnRow_snd_getElem? (k : Nat) (row : List (Option K)) (c : Nat) :
    (knnRow k row).2[c]? = (((argsortExt row).take k)[c]?).map (fun j => row.getD j none) := by
  rw [knnRow_snd, List.getElem?_map]

theorem mem_knnRow_fst {k : Nat} {row : List (Option K)} {j : Nat} :
    some j ∈ (knnRow k row).1
      ↔ j ∈ (argsortExt row).take k ∧ ∃ x, row.getD j none = some x := by
  simp only [List.mem_iff_getElem?, knnRow_fst_getElem?, exists_and_right]

/-- k-nearest property of one row: a listed index is at most as far as every index of the row
    that is not listed. -/
theorem knnRow_nearest (k : Nat) (row : List (Option K)) (j l : Nat)
    (hj : some j ∈ (knnRow k row).1) (hl : l < row.length) (hnl : some l ∉ (knnRow k row).1) :
    extLe (row.getD j none) (row.getD l none) := by
  obtain ⟨hjm, x, hx⟩ := mem_knnRow_fst.1 hj
  have hlm : l ∈ (argsortExt row).take k ++ (argsortExt row).drop k := by
    rw [List.take_append_drop]; exact mem_argsortExt.2 hl
  rcases List.mem_append.1 hlm with h | h
  · cases hv : row.getD l none with
    | none => exact extLe_none _
    | some y => exact absurd (mem_knnRow_fst.2 ⟨h, y, hv⟩) hnl
  · exact (argsortExt_sorted row).rel_of_mem_take_of_mem_drop hjm h

theorem knnRow_self_first (k : Nat) (row : List (Option K)) (i : Nat) (m : K) (hk : 1 ≤ k)
    (hi : i < row.length) (hm : row.getD i none = some m)
    (hothers : ∀ l, l < row.length → l ≠ i → extLt (some m) (row.getD l none)) :
    (knnRow k row).1[0]? = some (some i) ∧ (knnRow k row).2[0]? = some (some m) := by
  have hhead : ((argsortExt row).take k)[0]? = some i := by
    rw [List.getElem?_take_of_lt hk]
    exact argsortExt_head row i hi (by rw [hm]; exact hothers)
  refine ⟨(knnRow_fst_getElem? k row 0 i).2 ⟨hhead, m, hm⟩, ?_⟩
  rw [knnRow_snd_getElem?, hhead, Option.map_some, hm]

end Row

section Table

/-- `D[i][j]` (`0` outside the matrix). -/
def entry (D : List (List ℝ)) (i j : Nat) : ℝ := (D.getD i []).getD j 0

/-- an `n × n` matrix. -/
structure Square (n : Nat) (D : List (List ℝ)) : Prop where
  rows : D.length = n
  cols : ∀ row ∈ D, row.length = n

theorem exactStage_fst (thr : Option ℝ) (k : Nat) (D : List (List ℝ)) :
    (exactStage thr k D).1 = D.map (fun row => (knnRow k (row.map (cut thr))).1) := by
  simp [exactStage, threshold, List.map_map, Function.comp_def]

theorem exactStage_snd (thr : Option ℝ) (k : Nat) (D : List (List ℝ)) :
    (exactStage thr k D).2 = D.map (fun row => (knnRow k (row.map (cut thr))).2) := by
  simp [exactStage, threshold, List.map_map, Function.comp_def]

theorem exactStage_fst_getElem? (thr : Option ℝ) (k : Nat) (D : List (List ℝ)) (i : Nat) :
    (exactStage thr k D).1[i]? = (D[i]?).map (fun row => (knnRow k (row.map (cut thr))).1) := by
  rw [exactStage_fst, List.getElem?_map]

theorem exactStage_snd_getElem? (thr : Option ℝ) (k : Nat) (D : List (List ℝ)) (i : Nat) :
    (exactStage thr k D).2[i]? = (D[i]?).map (fun row => (knnRow k (row.map (cut thr))).2) := by
  rw [exactStage_snd, List.getElem?_map]

/-- row `i` of a square matrix after the disconnection step: `n` values, the `j`-th being
    `cut thr D[i][j]`. -/
theorem Square.cutRow {n : Nat} {D : List (List ℝ)} (hD : Square n D) (thr : Option ℝ) {i : Nat}
    {row : List ℝ} (hrow : D[i]? = some row) :
    i < n ∧ (row.map (cut thr)).length = n
      ∧ ∀ j, j < n → (row.map (cut thr)).getD j none = cut thr (entry D i j) := by
  have hlen : row.length = n := hD.cols row (List.mem_of_getElem? hrow)
  refine ⟨hD.rows ▸ (List.getElem?_eq_some_iff.1 hrow).1, by rw [List.length_map, hlen],
    fun j hj => ?_⟩
  unfold entry
  rw [List.getD_eq_getElem?_getD (l := D), hrow]
  simp [List.getD_eq_getElem?_getD, List.getElem?_eq_getElem (hlen ▸ hj)]

/-- The table built from a square matrix with `k ≤ n` is a valid kNN
    table in the sense of `C02.ValidTable`. -/
theorem exactStage_valid (thr : Option ℝ) (k n : Nat) (D : List (List ℝ)) (hD : Square n D)
    (hk : k ≤ n) : C02.ValidTable (exactStage thr k D).1 (exactStage thr k D).2 := by
  refine C02.validTable_iff.2
    ⟨by rw [exactStage_fst, exactStage_snd, List.length_map, List.length_map], k, ?_⟩
  intro i ix d hix hd
  rw [exactStage_fst_getElem?] at hix
  obtain ⟨row, hrow, rfl⟩ := Option.map_eq_some_iff.1 hix
  rw [exactStage_snd_getElem?, hrow] at hd
  obtain rfl := Option.some.inj hd
  have hlen : min k (row.map (cut thr)).length = k := by
    rw [List.length_map, hD.cols row (List.mem_of_getElem? hrow), Nat.min_eq_left hk]
  exact ⟨(knnRow_length k _).imp (·.trans hlen) (·.trans hlen), knnRow_distinct k _,
    knnRow_skip_iff k _⟩

/-- If column `c` of row `i` of the index table lists `j`, then
    `i, j < n`, `D[i][j]` is strictly below the disconnection distance, and column `c` of row `i`
    of the distance table is `D[i][j]`. -/
theorem exactStage_listed_near (thr : Option ℝ) (k n : Nat) (D : List (List ℝ)) (hD : Square n D)
    (i c j : Nat) (ix : List (Option Nat)) (hix : (exactStage thr k D).1[i]? = some ix)
    (hc : ix[c]? = some (some j)) :
    i < n ∧ j < n ∧ (∀ t, thr = some t → entry D i j < t) ∧
      ∃ d, (exactStage thr k D).2[i]? = some d ∧ d[c]? = some (some (entry D i j)) := by
  rw [exactStage_fst_getElem?] at hix
  obtain ⟨row, hrow, rfl⟩ := Option.map_eq_some_iff.1 hix
  obtain ⟨hi, hlen, hget⟩ := hD.cutRow thr hrow
  obtain ⟨hsort, x, hx⟩ := (knnRow_fst_getElem? k _ c j).1 hc
  have hj : j < n := hlen ▸ mem_argsortExt.1 (List.mem_of_mem_take (List.mem_of_getElem? hsort))
  rw [hget j hj] at hx
  refine ⟨hi, hj, (cut_eq_some.1 hx).2, _, by rw [exactStage_snd_getElem?, hrow]; rfl, ?_⟩
  rw [knnRow_snd_getElem?, hsort, Option.map_some, hget j hj, hx, (cut_eq_some.1 hx).1]

theorem exactStage_listed_near_mem (thr : Option ℝ) (k n : Nat) (D : List (List ℝ))
    (hD : Square n D) (i j : Nat) (h : some j ∈ ((exactStage thr k D).1[i]?).getD []) :
    i < n ∧ j < n ∧ ∀ t, thr = some t → entry D i j < t := by
  obtain ⟨ix, hix, h⟩ := C02.mem_getD_nil.1 h
  obtain ⟨c, hc⟩ := List.getElem?_of_mem h
  obtain ⟨h1, h2, h3, -⟩ := exactStage_listed_near thr k n D hD i c j ix hix hc
  exact ⟨h1, h2, h3⟩

/-- k-nearest property: every listed neighbour `j` of row `i` is at
    most as far as every index `l` of the row that is not listed — in the extended order on the
    thresholded matrix, and (hence) in the original matrix. -/
theorem exactStage_nearest (thr : Option ℝ) (k n : Nat) (D : List (List ℝ)) (hD : Square n D)
    (i j l : Nat) (ix : List (Option Nat)) (hix : (exactStage thr k D).1[i]? = some ix)
    (hj : some j ∈ ix) (hl : l < n) (hnl : some l ∉ ix) :
    extLe (cut thr (entry D i j)) (cut thr (entry D i l)) ∧ entry D i j ≤ entry D i l := by
  rw [exactStage_fst_getElem?] at hix
  obtain ⟨row, hrow, rfl⟩ := Option.map_eq_some_iff.1 hix
  obtain ⟨-, hlen, hget⟩ := hD.cutRow thr hrow
  obtain ⟨hjm, x, hx⟩ := mem_knnRow_fst.1 hj
  have hjn : j < n := hlen ▸ mem_argsortExt.1 (List.mem_of_mem_take hjm)
  have hle := knnRow_nearest k _ j l hj (hlen.symm ▸ hl) hnl
  rw [hget j hjn, hget l hl] at hle
  rw [hget j hjn] at hx
  exact ⟨hle, le_of_extLe_cut (cut_eq_some.1 hx).2 hle⟩

/-- If `D[i][i] = 0`, every other entry of row `i` is positive,
    `0` is below the disconnection distance and `k ≥ 1`, then column 0 of row `i` is the sample
    itself at distance `0`. -/
theorem exactStage_self_first (thr : Option ℝ) (k n : Nat) (D : List (List ℝ)) (hD : Square n D)
    (i : Nat) (hi : i < n) (hk : 1 ≤ k) (hdiag : entry D i i = 0)
    (hpos : ∀ l, l < n → l ≠ i → 0 < entry D i l) (hthr : ∀ t, thr = some t → 0 < t) :
    ∃ ix d, (exactStage thr k D).1[i]? = some ix ∧ (exactStage thr k D).2[i]? = some d
      ∧ ix[0]? = some (some i) ∧ d[0]? = some (some 0) := by
  obtain ⟨row, hrow⟩ : ∃ row, D[i]? = some row := ⟨_, List.getElem?_eq_getElem (hD.rows ▸ hi)⟩
  obtain ⟨-, hlen, hget⟩ := hD.cutRow thr hrow
  obtain ⟨h1, h2⟩ := knnRow_self_first k (row.map (cut thr)) i 0 hk (hlen.symm ▸ hi)
    (by rw [hget i hi, hdiag, cut_eq_some.2 ⟨rfl, hthr⟩])
    (fun l hl hne => by
      rw [hlen] at hl
      rw [hget l hl]
      exact extLt_some_cut (hpos l hl hne))
  exact ⟨_, _, by rw [exactStage_fst_getElem?, hrow]; rfl,
    by rw [exactStage_snd_getElem?, hrow]; rfl, h1, h2⟩

open Graph in
/-- pruning the exact table to fewer columns is the exact table for the smaller `n_neighbors`. -/
theorem exactStage_takeCols (thr : Option ℝ) {k k' : Nat} (h : k ≤ k') (D : List (List ℝ)) :
    exactStage thr k D
      = (takeCols k (exactStage thr k' D).1, takeCols k (exactStage thr k' D).2) := by
  apply Prod.ext
  · show (exactStage thr k D).1 = takeCols k (exactStage thr k' D).1
    rw [exactStage_fst, exactStage_fst, takeCols, List.map_map]
    exact List.map_congr_left fun row _ => congrArg Prod.fst (knnRow_take h _)
  · show (exactStage thr k D).2 = takeCols k (exactStage thr k' D).2
    rw [exactStage_snd, exactStage_snd, takeCols, List.map_map]
    exact List.map_congr_left fun row _ => congrArg Prod.snd (knnRow_take h _)

end Table

section Pipeline
open Graph
variable (tol minScale target : ℝ) (lcIdx nIter : Nat)

/--
  For a square distance matrix, `n_neighbors = k ≤ n`, an
  integral `local_connectivity ≥ 1` (`lcFrac = 0`; the default is 1.0) and any mix ratio
  `r ∈ [0, 1]`: the graph stage on the table of the exact neighbour stage succeeds, and every
  stored entry `(i, j, v)` of the fitted graph is off the diagonal, has `0 < v ≤ 1`, is mirrored,
  joins two genuine samples, and — when a disconnection distance `t` is set — `D[i][j] < t` or
  `D[j][i] < t`: no edge joins two samples that are at or beyond the disconnection distance.
-/
theorem C04_pipeline_no_far_edge (htol : 0 ≤ tol) (hlc : 1 ≤ lcIdx) (r : ℝ) (hr0 : 0 ≤ r)
    (hr1 : r ≤ 1) (thr : Option ℝ) (k n : Nat) (D : List (List ℝ)) (hD : Square n D)
    (hk : k ≤ n) :
    ∃ G, graphOfKnn realT tol minScale target lcIdx 0 nIter r
          (exactStage thr k D).1 (exactStage thr k D).2 = some G ∧
      ∀ i j v, (i, j, v) ∈ G →
        i ≠ j ∧ 0 < v ∧ v ≤ 1 ∧ (j, i, v) ∈ G ∧ i < n ∧ j < n ∧
        ∀ t, thr = some t → entry D i j < t ∨ entry D j i < t := by
  have hv := exactStage_valid thr k n D hD hk
  have hn := C02.noNanRho_integral tol htol lcIdx (Nat.lt_of_succ_le hlc) (exactStage thr k D).2
  have hG := C02.graphOfKnn_eq_some tol minScale target lcIdx 0 nIter r _ _ hv hn
  refine ⟨_, hG, ?_⟩
  intro i j v h
  obtain ⟨hpos, hle, hsym, hij, hlist, _⟩ :=
    C02.C02_pipeline tol minScale target lcIdx 0 nIter r hr0 hr1 _ _ hv hn _ hG i j v h
  refine ⟨hij, hpos, hle, hsym, ?_⟩
  rcases hlist with h1 | h1
  · obtain ⟨hi, hj, hlt⟩ := exactStage_listed_near_mem thr k n D hD i j h1
    exact ⟨hi, hj, fun t ht => Or.inl (hlt t ht)⟩
  · obtain ⟨hj, hi, hlt⟩ := exactStage_listed_near_mem thr k n D hD j i h1
    exact ⟨hi, hj, fun t ht => Or.inr (hlt t ht)⟩

/-- for a symmetric distance matrix the disjunction collapses: every edge of the fitted graph
    joins two samples strictly closer than the disconnection distance. -/
theorem C04_pipeline_no_far_edge_symm (htol : 0 ≤ tol) (hlc : 1 ≤ lcIdx) (r : ℝ) (hr0 : 0 ≤ r)
    (hr1 : r ≤ 1) (t : ℝ) (k n : Nat) (D : List (List ℝ)) (hD : Square n D) (hk : k ≤ n)
    (hsymm : ∀ a b, entry D a b = entry D b a) (G : Coo ℝ)
    (hG : graphOfKnn realT tol minScale target lcIdx 0 nIter r
          (exactStage (some t) k D).1 (exactStage (some t) k D).2 = some G)
    (i j : Nat) (v : ℝ) (h : (i, j, v) ∈ G) : entry D i j < t := by
  obtain ⟨G', hG', hall⟩ := C04_pipeline_no_far_edge tol minScale target lcIdx nIter htol hlc r hr0
    hr1 (some t) k n D hD hk
  obtain rfl : G' = G := Option.some.inj (hG'.symm.trans hG)
  rcases (hall i j v h).2.2.2.2.2.2 t rfl with h1 | h1
  · exact h1
  · rw [hsymm]; exact h1

/--
  If every off-diagonal entry of row `i` and of column `i` is at
  or beyond the disconnection distance, sample `i` is isolated: no entry of the fitted graph has
  `i` as row or column.
-/
theorem C04_pipeline_isolated (htol : 0 ≤ tol) (hlc : 1 ≤ lcIdx) (r : ℝ) (hr0 : 0 ≤ r)
    (hr1 : r ≤ 1) (t : ℝ) (k n : Nat) (D : List (List ℝ)) (hD : Square n D) (hk : k ≤ n)
    (i : Nat) (hfar : ∀ l, l < n → l ≠ i → t ≤ entry D i l ∧ t ≤ entry D l i) (G : Coo ℝ)
    (hG : graphOfKnn realT tol minScale target lcIdx 0 nIter r
          (exactStage (some t) k D).1 (exactStage (some t) k D).2 = some G)
    (a b : Nat) (v : ℝ) (h : (a, b, v) ∈ G) : a ≠ i ∧ b ≠ i := by
  obtain ⟨G', hG', hall⟩ := C04_pipeline_no_far_edge tol minScale target lcIdx nIter htol hlc r hr0
    hr1 (some t) k n D hD hk
  obtain rfl : G' = G := Option.some.inj (hG'.symm.trans hG)
  obtain ⟨hab, -, -, -, ha, hb, hnear⟩ := hall a b v h
  -- an edge `x – y` with `x` a sample other than `y` keeps `y` away from the far sample `i`
  have key : ∀ x y, x < n → x ≠ y → (entry D y x < t ∨ entry D x y < t) → y ≠ i := by
    rintro x y hx hxy hlt rfl
    exact hlt.elim (not_lt.2 (hfar x hx hxy).1) (not_lt.2 (hfar x hx hxy).2)
  exact ⟨key b a hb hab.symm (hnear t rfl), key a b ha hab (hnear t rfl).symm⟩

end Pipeline

/-! ## non-vacuity

  Three points on a line at 0, 1, 3 (`exD` is their distance matrix) with disconnection distance
  2.5: the pair (0, 2) at distance 3 is cut, the pair (1, 2) at distance 2 stays.  With
  `n_neighbors = 3` the exact stage produces exactly the table `C02.exIdx` / `C02.exDs`. -/

noncomputable def exD : List (List ℝ) := [[0, 1, 3], [1, 0, 2], [3, 2, 0]]

theorem exD_square : Square 3 exD := ⟨rfl, by decide⟩

/-- the table of the example, evaluated over ℝ. -/
theorem exStage : exactStage (some (5/2)) 3 exD = (C02.exIdx, C02.exDs) := by
  have below : ∀ d : ℝ, d < 5/2 → cut (some (5/2 : ℝ)) d = some d :=
    fun d h => cut_eq_some.2 ⟨rfl, fun t ht => Option.some.inj ht ▸ h⟩
  have c0 := below 0 (by norm_num)
  have c1 := below 1 (by norm_num)
  have c2 := below 2 (by norm_num)
  have c3 : cut (some (5/2 : ℝ)) 3 = none := cut_eq_none.2 ⟨_, rfl, by norm_num⟩
  -- row by row: the claimed order is a stably sorted permutation, hence the sort
  have tri : ∀ {R : Nat → Nat → Prop} {a b c : Nat}, R a b → R a c → R b c →
      [a, b, c].Pairwise R := fun h1 h2 h3 =>
    .cons (by simp [h1, h2]) (.cons (by simp [h3]) (List.pairwise_singleton _ _))
  have s0 : argsortExt [some (0:ℝ), some 1, none] = [0, 1, 2] :=
    argsortExt_eq_of_stable _ _ (by decide)
      (tri (.inl (show (0:ℝ) < 1 by norm_num)) (.inl trivial) (.inl trivial))
  have s1 : argsortExt [some (1:ℝ), some 0, some 2] = [1, 0, 2] :=
    argsortExt_eq_of_stable _ _ (by decide)
      (tri (.inl (show (0:ℝ) < 1 by norm_num)) (.inl (show (0:ℝ) < 2 by norm_num))
        (.inl (show (1:ℝ) < 2 by norm_num)))
  have s2 : argsortExt [none, some (2:ℝ), some 0] = [2, 1, 0] :=
    argsortExt_eq_of_stable _ _ (by decide)
      (tri (.inl (show (0:ℝ) < 2 by norm_num)) (.inl trivial) (.inl trivial))
  simp only [exactStage, threshold, exD, List.map_cons, List.map_nil, c0, c1, c2, c3, knnRow,
    s0, s1, s2]
  rfl

/-- the same table with `n_neighbors = 2`. -/
theorem exStage2 : exactStage (some (5/2)) 2 exD
    = ([[some 0, some 1], [some 1, some 0], [some 2, some 1]],
       [[some 0, some 1], [some 0, some 1], [some 0, some 2]]) := by
  rw [exactStage_takeCols _ (show 2 ≤ 3 by decide), exStage]
  simp [Graph.takeCols, C02.exIdx, C02.exDs]

/-- the same evaluation by the kernel over ℚ (the executable model itself, no rewriting). -/
example : exactStage (some (5/2 : ℚ)) 3 [[0, 1, 3], [1, 0, 2], [3, 2, 0]]
    = (C02.exIdx, [[some 0, some 1, none], [some 0, some 1, some 2], [some 0, some 2, none]]) := by
  decide +kernel

/-- ties keep index order and `inf` sorts last. -/
example : argsortExt ([some 1, some 0, some 1, none, some 0] : List (Option ℚ)) = [1, 4, 0, 2, 3] := by
  decide +kernel

/-- `exactStage_valid`, `exactStage_listed_near` on the example: column 2 of row 1 lists sample 2
    at distance `D[1][2] = 2 < 2.5`. -/
example : C02.ValidTable (exactStage (some (5/2)) 3 exD).1 (exactStage (some (5/2)) 3 exD).2
    ∧ entry exD 1 2 < 5/2 := by
  refine ⟨exactStage_valid _ 3 3 exD exD_square le_rfl, ?_⟩
  exact (exactStage_listed_near (some (5/2)) 3 3 exD exD_square 1 2 2 [some 1, some 0, some 2]
    (by rw [exStage]; rfl) rfl).2.2.1 _ rfl

/-- `exactStage_nearest` on the example with `n_neighbors = 2`: in row 0 the listed sample 1 is
    at most as far as the unlisted sample 2. -/
example : entry exD 0 1 ≤ entry exD 0 2 :=
  (exactStage_nearest (some (5/2)) 2 3 exD exD_square 0 1 2 [some 0, some 1]
    (by rw [exStage2]; rfl) (by decide) (by decide) (by decide)).2

/-- the hypotheses of `exactStage_self_first` hold for every row of the example. -/
example : ∃ ix d, (exactStage (some (5/2)) 3 exD).1[2]? = some ix
    ∧ (exactStage (some (5/2)) 3 exD).2[2]? = some d
    ∧ ix[0]? = some (some 2) ∧ d[0]? = some (some 0) := by
  refine exactStage_self_first (some (5/2)) 3 3 exD exD_square 2 (by decide) (by decide)
    rfl ?_ ?_
  · intro l hl hne
    interval_cases l
    · exact show (0 : ℝ) < 3 by norm_num
    · exact show (0 : ℝ) < 2 by norm_num
    · exact absurd rfl hne
  · rintro t ⟨⟩
    norm_num

/-- the pipeline on the example: for the default `local_connectivity = 1.0`, any tolerance
    `≥ 0`, any `r ∈ (0, 1]`, the graph stage succeeds on the table of the exact stage, the fitted
    graph joins 0–1 and 1–2, and does not join the pair 0–2 cut by the disconnection distance. -/
example (tol minScale target : ℝ) (htol : 0 ≤ tol) (nIter : Nat) (r : ℝ) (hr0 : 0 < r)
    (hr1 : r ≤ 1) :
    ∃ G, Graph.graphOfKnn realT tol minScale target 1 0 nIter r
          (exactStage (some (5/2)) 3 exD).1 (exactStage (some (5/2)) 3 exD).2 = some G ∧
      (∃ v, (0, 1, v) ∈ G ∧ (1, 0, v) ∈ G) ∧ (∃ v, (1, 2, v) ∈ G ∧ (2, 1, v) ∈ G)
      ∧ ∀ v, (0, 2, v) ∉ G ∧ (2, 0, v) ∉ G := by
  obtain ⟨G, hG, hall⟩ := C04_pipeline_no_far_edge tol minScale target 1 nIter htol le_rfl r
    (le_of_lt hr0) hr1 (some (5/2)) 3 3 exD exD_square le_rfl
  have hv := exactStage_valid (some (5/2)) 3 3 exD exD_square le_rfl
  have hn := C02.noNanRho_integral tol htol 1 Nat.one_pos (exactStage (some (5/2)) 3 exD).2
  refine ⟨G, hG, ?_, ?_, ?_⟩
  · exact C02.edge_of_listed tol minScale target 1 0 nIter r hr0 hr1 _ _ hv hn G hG 0 1
      (by decide) (by rw [exStage]; decide)
  · exact C02.edge_of_listed tol minScale target 1 0 nIter r hr0 hr1 _ _ hv hn G hG 1 2
      (by decide) (by rw [exStage]; decide)
  · -- `D[0][2] = D[2][0] = 3`, not below `5/2`
    have h3 : ¬ ((3 : ℝ) < 5 / 2) := by norm_num
    exact fun v => ⟨fun h => ((hall 0 2 v h).2.2.2.2.2.2 _ rfl).elim h3 h3,
      fun h => ((hall 2 0 v h).2.2.2.2.2.2 _ rfl).elim h3 h3⟩

/-- a matrix on which the hypotheses of `C04_pipeline_isolated` hold: points at 0, 1 and 4 with
    disconnection distance 2.5 — sample 2 is at distance ≥ 3 from both others. -/
noncomputable def exFar : List (List ℝ) := [[0, 1, 4], [1, 0, 3], [4, 3, 0]]

theorem exFar_square : Square 3 exFar := ⟨rfl, by decide⟩

example (tol minScale target : ℝ) (htol : 0 ≤ tol) (nIter : Nat) (r : ℝ) (hr0 : 0 ≤ r)
    (hr1 : r ≤ 1) :
    ∃ G, Graph.graphOfKnn realT tol minScale target 1 0 nIter r
          (exactStage (some (5/2)) 3 exFar).1 (exactStage (some (5/2)) 3 exFar).2 = some G ∧
      ∀ a b v, (a, b, v) ∈ G → a ≠ 2 ∧ b ≠ 2 := by
  obtain ⟨G, hG, _⟩ := C04_pipeline_no_far_edge tol minScale target 1 nIter htol le_rfl r
    hr0 hr1 (some (5/2)) 3 3 exFar exFar_square le_rfl
  refine ⟨G, hG, ?_⟩
  apply C04_pipeline_isolated tol minScale target 1 nIter htol le_rfl r hr0 hr1 (5/2) 3 3 exFar
    exFar_square le_rfl 2 ?_ G hG
  -- `D[2][0] = D[0][2] = 4`, `D[2][1] = D[1][2] = 3`
  have h4 : (5/2 : ℝ) ≤ 4 := by norm_num
  have h3 : (5/2 : ℝ) ≤ 3 := by norm_num
  intro l hl hne
  interval_cases l
  · exact ⟨h4, h4⟩
  · exact ⟨h3, h3⟩
  · exact absurd rfl hne

end C04
end Umap
