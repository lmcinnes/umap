/-
  C18 — the model-combination operators keep their operands' graphs well formed.

  Model: `Umap.Graph.ssetUnion`, `ssetIntersection` (umap/sparse.py `general_sset_union`,
  `general_sset_intersection`), `reprocessRow`, `resetLocalConnectivity`
  (umap_.py `reprocess_row`, `reset_local_connectivity`).

  Both set operations read each operand through its stored value at a position, or a default
  (`storedOr`, `rightVal`), the default being the half-minimum of its stored values (`halfMin`):
  these come first. Both tabulate an entry function over a list of positions (`Graph.tabulate`):
  `ssetUnion_eq`, `ssetIntersection_eq` come next. Support, absence of duplicates and ranges are
  read off that form, and carried through `reset_local_connectivity`.

  The algebraic facts hold over every linear ordered field (in the first two parts a lemma asks of
  the scalars only what it uses), and so does the bracket of `reprocessRow`'s search
  (`bracket_state`); what is said of the returned row as a power of the input is over ℝ with
  `realT` (`Real.rpow`), and comes last.
-/
import UmapProofs.Bracket
import UmapProps.C16

namespace Umap
namespace C18
open Graph

section
variable {K : Type} [Field K] [LinearOrder K] [IsStrictOrderedRing K]

/-- all stored values are memberships in `(0, 1]`. -/
def PosUnit (A : Coo K) : Prop := ∀ t ∈ A, 0 < t.2.2 ∧ t.2.2 ≤ 1

/-- the transform applied to the right operand's stored values: `1 - x` for the complement. -/
def rfOf (rc : Bool) : K → K := if rc then (fun x => 1 - x) else id

/-- `right_val`: the (transformed) stored value of `B` at `(i, j)` — last match wins — or the
    default `right_min`. -/
def rightVal (rc : Bool) (B : Coo K) (i j : Nat) (rmin : K) : K :=
  match (B.filter (fun t => t.1 == i && t.2.1 == j)).getLast? with
  | some t => rfOf rc t.2.2
  | none => rmin

end

section
variable {K : Type} [Field K]

theorem rightVal_false (B : Coo K) (i j : Nat) (d : K) :
    rightVal false B i j d = storedOr B i j d := by
  unfold rightVal storedOr rfOf
  generalize (List.filter (fun t => t.1 == i && t.2.1 == j) B).getLast? = o
  cases o <;> rfl

/-- the one place where the `getLast?` scan of the code is opened. -/
theorem rightVal_spec (rc : Bool) (B : Coo K) (i j : Nat) (d : K) :
    (rightVal rc B i j d = d ∧ ∀ b, (i, j, b) ∉ B)
    ∨ ∃ b, (i, j, b) ∈ B ∧ rightVal rc B i j d = rfOf rc b := by
  unfold rightVal
  split
  · next t h =>
    have hm := List.mem_filter.1 (List.mem_of_getLast? h)
    obtain ⟨a, b, c⟩ := t
    obtain ⟨rfl, rfl⟩ : a = i ∧ b = j := by simpa using hm.2
    exact Or.inr ⟨c, hm.1, rfl⟩
  · next h =>
    refine Or.inl ⟨rfl, fun b hb => ?_⟩
    have : (i, j, b) ∈ B.filter (fun t => t.1 == i && t.2.1 == j) :=
      List.mem_filter.2 ⟨hb, by simp⟩
    rw [List.getLast?_eq_none_iff.1 h] at this
    cases this

theorem storedOr_spec (A : Coo K) (i j : Nat) (d : K) :
    (storedOr A i j d = d ∧ ∀ v, (i, j, v) ∉ A) ∨ ∃ v, (i, j, v) ∈ A ∧ storedOr A i j d = v := by
  rw [← rightVal_false]
  exact rightVal_spec false A i j d

theorem storedOr_of_mem_noDup {A : Coo K} (hd : NoDup A) {i j : Nat} {v : K} (d : K)
    (h : (i, j, v) ∈ A) : storedOr A i j d = v := by
  rcases storedOr_spec A i j d with ⟨_, hn⟩ | ⟨v', hv', he⟩
  · exact absurd h (hn v)
  · rw [he, ← lookup_of_mem_nodup A hd i j v' hv', lookup_of_mem_nodup A hd i j v h]

variable [LinearOrder K]

theorem PosUnit.nonNeg {A : Coo K} (h : PosUnit A) : C16.NonNeg A := fun t ht => (h t ht).1.le

theorem storedOr_range {A : Coo K} (hA : PosUnit A) (i j : Nat) {d : K} (hd : 0 < d ∧ d ≤ 1) :
    0 < storedOr A i j d ∧ storedOr A i j d ≤ 1 := by
  rcases storedOr_spec A i j d with ⟨h, _⟩ | ⟨v, hv, h⟩ <;> rw [h]
  · exact hd
  · exact hA _ hv

theorem dataMin_some {A : Coo K} {f : K → K} {d : K} (h : dataMin A f = some d) :
    (∃ t ∈ A, d = f t.2.2) ∧ ∀ t ∈ A, d ≤ f t.2.2 := by
  cases A with
  | nil => cases h
  | cons a as =>
    cases h
    constructor
    · rcases minL_mem (f a.2.2) (as.map fun u => f u.2.2) with e | e
      · exact ⟨a, List.mem_cons_self, e⟩
      · obtain ⟨u, hu, he⟩ := List.mem_map.1 e
        exact ⟨u, List.mem_cons_of_mem _ hu, he.symm⟩
    · intro t ht
      rcases List.mem_cons.1 ht with rfl | h'
      · exact minL_le_init _ _
      · exact minL_le_mem _ _ _ (List.mem_map.2 ⟨t, h', rfl⟩)

theorem halfMin_some {eps : K} {A : Coo K} {f : K → K} {m : K} (h : halfMin eps A f = some m) :
    ∃ d, dataMin A f = some d ∧ m = max (d / 2) eps := by
  obtain ⟨d, hd, rfl⟩ := Option.map_eq_some_iff.1 h
  exact ⟨d, hd, by rw [maxV_eq_max, one_add_one_eq_two]⟩

/-- `data.min()` of an empty array raises. -/
theorem halfMin_eq_none {eps : K} {A : Coo K} {f : K → K} : halfMin eps A f = none ↔ A = [] := by
  cases A <;> simp [halfMin, dataMin]

variable [IsStrictOrderedRing K]

/-- a membership in `(0, 1]` is transformed into `[0, 1]` (the complement `1 - b` can be `0`). -/
theorem rfOf_unit (rc : Bool) {b : K} (hb : 0 < b ∧ b ≤ 1) : 0 ≤ rfOf rc b ∧ rfOf rc b ≤ 1 := by
  cases rc
  · exact ⟨hb.1.le, hb.2⟩
  · exact ⟨sub_nonneg.2 hb.2, sub_le_self _ hb.1.le⟩

theorem rightVal_unit (rc : Bool) {B : Coo K} (hB : PosUnit B) (i j : Nat) {d : K}
    (hd : 0 < d ∧ d ≤ 1) : 0 ≤ rightVal rc B i j d ∧ rightVal rc B i j d ≤ 1 := by
  rcases rightVal_spec rc B i j d with ⟨h, _⟩ | ⟨b, hb, h⟩ <;> rw [h]
  · exact ⟨hd.1.le, hd.2⟩
  · exact rfOf_unit rc (hB _ hb)

theorem halfMin_range {eps : K} (he0 : 0 < eps) (he1 : eps ≤ 1) {A : Coo K} {f : K → K}
    (hA : ∀ t ∈ A, f t.2.2 ≤ 1) {m : K} (h : halfMin eps A f = some m) : 0 < m ∧ m ≤ 1 := by
  obtain ⟨d, hd, rfl⟩ := halfMin_some h
  obtain ⟨⟨t, ht, hdt⟩, _⟩ := dataMin_some hd
  have h2 : d / 2 ≤ 1 := (div_le_one (two_pos (α := K))).2 (hdt ▸ (hA t ht).trans one_le_two)
  exact ⟨lt_of_lt_of_le he0 (le_max_right _ _), max_le h2 he1⟩

end

section
variable {K : Type}

/-- the positions `general_sset_intersection` visits. -/
def interPositions (rc : Bool) (A B : Coo K) : List (Nat × Nat) :=
  if rc then positions A else positions (A ++ B)

theorem nodup_interPositions (rc : Bool) (A B : Coo K) : (interPositions rc A B).Nodup := by
  unfold interPositions
  split_ifs <;> exact nodup_positions _

variable [Field K]

/-- the value written by `general_sset_union` at position `(i, j)`. -/
def unionEntry (A B : Coo K) (lmin rmin : K) (i j : Nat) : K :=
  storedOr A i j lmin + storedOr B i j rmin - storedOr A i j lmin * storedOr B i j rmin

theorem unionEntry_comm (A B : Coo K) (lmin rmin : K) (i j : Nat) :
    unionEntry A B lmin rmin i j = unionEntry B A rmin lmin i j := by
  unfold unionEntry; ring

variable [LinearOrder K]

theorem ssetUnion_eq (eps : K) (A B : Coo K) :
    ssetUnion eps A B =
      (halfMin eps A id).bind fun lmin => (halfMin eps B id).map fun rmin =>
        tabulate (positions (A ++ B)) (unionEntry A B lmin rmin) := by
  unfold ssetUnion
  cases halfMin eps A id <;> cases halfMin eps B id <;> rfl

theorem ssetUnion_some {eps : K} {A B U : Coo K} (h : ssetUnion eps A B = some U) :
    ∃ lmin rmin, halfMin eps A id = some lmin ∧ halfMin eps B id = some rmin ∧
      U = tabulate (positions (A ++ B)) (unionEntry A B lmin rmin) :=
  bind_map_eq_some_iff.1 (ssetUnion_eq eps A B ▸ h)

theorem union_support_mem {eps : K} {A B U : Coo K} (hU : ssetUnion eps A B = some U)
    (i j : Nat) : (∃ v, (i, j, v) ∈ U) ↔ (∃ v, (i, j, v) ∈ A) ∨ (∃ v, (i, j, v) ∈ B) := by
  obtain ⟨_, _, _, _, rfl⟩ := ssetUnion_some hU
  rw [← mem_positions, positions_tabulate (nodup_positions _), mem_positions_append, mem_positions,
    mem_positions]

/-- the value written in the kept branch. -/
def keptValue (T : Transc K) (w l r : K) : K :=
  if w < 1 / (1 + 1) then l * T.pow r (w / (1 - w)) else T.pow l ((1 - w) / w) * r

/-- the value left untouched in the other branch: the entry of `A + B` (of `A` alone for the
    complement), duplicates summed. -/
def priorValue (rc : Bool) (A B : Coo K) (i j : Nat) : K :=
  if rc then lookup A i j else lookup A i j + lookup B i j

/-- the keep-condition `left_val > left_min or right_val > right_min`. -/
def Kept (rc : Bool) (A B : Coo K) (lmin rmin : K) (i j : Nat) : Prop :=
  lmin < storedOr A i j lmin ∨ rmin < rightVal rc B i j rmin

instance (rc : Bool) (A B : Coo K) (lmin rmin : K) (i j : Nat) :
    Decidable (Kept rc A B lmin rmin i j) := by unfold Kept; infer_instance

/-- the value of the result at `(i, j)`. -/
def interEntry (T : Transc K) (rc : Bool) (w : K) (A B : Coo K) (lmin rmin : K) (i j : Nat) : K :=
  if Kept rc A B lmin rmin i j then
    keptValue T w (storedOr A i j lmin) (rightVal rc B i j rmin)
  else priorValue rc A B i j

theorem interEntry_of_kept {T : Transc K} {rc : Bool} {w : K} {A B : Coo K} {lmin rmin : K}
    {i j : Nat} (h : Kept rc A B lmin rmin i j) :
    interEntry T rc w A B lmin rmin i j
      = keptValue T w (storedOr A i j lmin) (rightVal rc B i j rmin) := if_pos h

theorem interEntry_of_not_kept {T : Transc K} {rc : Bool} {w : K} {A B : Coo K} {lmin rmin : K}
    {i j : Nat} (h : ¬ Kept rc A B lmin rmin i j) :
    interEntry T rc w A B lmin rmin i j = priorValue rc A B i j := if_neg h

theorem kept_false_iff {A B : Coo K} {lmin rmin : K} {i j : Nat} :
    Kept false A B lmin rmin i j ↔ lmin < storedOr A i j lmin ∨ rmin < storedOr B i j rmin := by
  rw [Kept, rightVal_false]

theorem ssetIntersection_eq (T : Transc K) (eps cap w : K) (rc : Bool) (A B : Coo K) :
    ssetIntersection T eps cap rc w A B =
      (halfMin eps A id).bind fun lmin => (halfMin eps B (rfOf rc)).map fun rmin0 =>
        tabulate (interPositions rc A B) (interEntry T rc w A B lmin (minV rmin0 cap)) := by
  unfold ssetIntersection
  show (match halfMin eps A id, halfMin eps B (rfOf rc) with
    | some lmin, some rmin0 => _ | _, _ => none) = _
  rcases halfMin eps A id with _ | lmin <;> rcases halfMin eps B (rfOf rc) with _ | rmin0 <;>
    try rfl
  refine congrArg some (List.map_congr_left ?_)
  rintro ⟨i, j⟩ _
  -- the model decides the branches first and builds the triple in each; `interEntry` decides inside
  unfold interEntry keptValue priorValue
  simp only [apply_ite (fun v : K => (i, j, v))]
  rfl

theorem ssetIntersection_some {T : Transc K} {eps cap w : K} {rc : Bool} {A B U : Coo K}
    (h : ssetIntersection T eps cap rc w A B = some U) :
    ∃ lmin rmin0, halfMin eps A id = some lmin ∧ halfMin eps B (rfOf rc) = some rmin0 ∧
      U = tabulate (interPositions rc A B) (interEntry T rc w A B lmin (minV rmin0 cap)) :=
  bind_map_eq_some_iff.1 (ssetIntersection_eq T eps cap w rc A B ▸ h)

/-- a position is stored in the result exactly when it is visited. -/
theorem intersection_support_mem {T : Transc K} {eps cap w : K} {rc : Bool} {A B U : Coo K}
    (hU : ssetIntersection T eps cap rc w A B = some U) (i j : Nat) :
    (∃ v, (i, j, v) ∈ U) ↔ (i, j) ∈ interPositions rc A B := by
  obtain ⟨_, _, _, _, rfl⟩ := ssetIntersection_some hU
  exact ⟨fun ⟨_, h⟩ => (mem_tabulate.1 h).1, fun h => ⟨_, mem_tabulate.2 ⟨h, rfl⟩⟩⟩

end

section
variable {K : Type} [Field K] [LinearOrder K] [IsStrictOrderedRing K]

/-- `ssetUnion eps B A` fails iff `ssetUnion eps A B` does, and otherwise stores
    exactly the same triples, up to the order in which the positions are enumerated. -/
theorem union_comm (eps : K) (A B : Coo K) :
    (ssetUnion eps A B = none ∧ ssetUnion eps B A = none)
    ∨ ∃ U V, ssetUnion eps A B = some U ∧ ssetUnion eps B A = some V ∧ U.Perm V := by
  rw [ssetUnion_eq, ssetUnion_eq]
  rcases halfMin eps A id with _ | lmin <;> rcases halfMin eps B id with _ | rmin
  · exact Or.inl ⟨rfl, rfl⟩
  · exact Or.inl ⟨rfl, rfl⟩
  · exact Or.inl ⟨rfl, rfl⟩
  · refine Or.inr ⟨_, _, rfl, rfl, ?_⟩
    beta_reduce
    rw [funext₂ (unionEntry_comm B A rmin lmin)]
    exact (positions_append_perm A B).map _

/-- in particular the two results have the same value at every position. -/
theorem union_comm_mem (eps : K) (A B : Coo K) (U V : Coo K) (hU : ssetUnion eps A B = some U)
    (hV : ssetUnion eps B A = some V) (t : Nat × Nat × K) : t ∈ U ↔ t ∈ V := by
  rcases union_comm eps A B with ⟨h, _⟩ | ⟨U', V', h1, h2, hp⟩
  · rw [h] at hU; simp at hU
  · rw [hU] at h1; rw [hV] at h2
    cases h1; cases h2
    exact hp.mem_iff

theorem union_value_range {l r : K} (hl : 0 < l ∧ l ≤ 1) (hr : 0 < r ∧ r ≤ 1) :
    0 < l + r - l * r ∧ l + r - l * r ≤ 1 := by
  rw [← mix_one]
  exact ⟨hl.1.trans_le (le_mix_one_left hl.2 hr.1.le),
    mix_le_one le_rfl hl.1.le hl.2 hr.1.le hr.2⟩

/-- for operands with stored values in `(0, 1]` and `eps ∈ (0, 1]`, every entry
    of the union lies in `(0, 1]`. -/
theorem union_range (eps : K) (he0 : 0 < eps) (he1 : eps ≤ 1) (A B : Coo K) (hA : PosUnit A)
    (hB : PosUnit B) (U : Coo K) (hU : ssetUnion eps A B = some U) : PosUnit U := by
  obtain ⟨lmin, rmin, hl, hr, rfl⟩ := ssetUnion_some hU
  exact forall_tabulate fun p _ => union_value_range
    (storedOr_range hA p.1 p.2 (halfMin_range he0 he1 (fun t ht => (hA t ht).2) hl))
    (storedOr_range hB p.1 p.2 (halfMin_range he0 he1 (fun t ht => (hB t ht).2) hr))

/-- the stored positions of the union are exactly the positions of `A + B`,
    each once (as a list). -/
theorem union_support (eps : K) (A B : Coo K) (U : Coo K) (hU : ssetUnion eps A B = some U) :
    U.map (fun t => (t.1, t.2.1)) = positions (A ++ B) ∧ positions U = positions (A ++ B)
      ∧ NoDup U := by
  obtain ⟨lmin, rmin, _, _, rfl⟩ := ssetUnion_some hU
  exact ⟨tabulate_keys _ _, positions_tabulate (nodup_positions _) _,
    noDup_tabulate (nodup_positions _) _⟩

/-- the union fails exactly when an operand has no stored entry (`data.min()` of an empty array). -/
theorem union_none_iff (eps : K) (A B : Coo K) : ssetUnion eps A B = none ↔ A = [] ∨ B = [] := by
  rw [ssetUnion_eq, bind_map_eq_none_iff, halfMin_eq_none, halfMin_eq_none]

/-- the stored positions of `general_sset_intersection` are those of
    `A + B`, and with `right_complement = True` those of the left operand `A` alone. -/
theorem intersection_support (T : Transc K) (eps cap w : K) (rc : Bool) (A B U : Coo K)
    (hU : ssetIntersection T eps cap rc w A B = some U) :
    U.map (fun t => (t.1, t.2.1)) = if rc then positions A else positions (A ++ B) := by
  obtain ⟨lmin, rmin0, _, _, rfl⟩ := ssetIntersection_some hU
  exact tabulate_keys _ _

/-- contrast (`right_complement`): every stored position is stored in the left operand. -/
theorem contrast_support_subset (T : Transc K) (eps cap w : K) (A B U : Coo K)
    (hU : ssetIntersection T eps cap true w A B = some U) (i j : Nat) (v : K)
    (h : (i, j, v) ∈ U) : ∃ v', (i, j, v') ∈ A :=
  (mem_positions A i j).1 ((intersection_support_mem hU i j).1 ⟨v, h⟩)

theorem combined_symm (A : Coo K) (i j : Nat) (v : K) (h : (i, j, v) ∈ resetLocalConnectivity A) :
    (j, i, v) ∈ resetLocalConnectivity A :=
  C02.symmetric 1 _ i j v h

/-- for a combined graph with non-negative stored values and no
    duplicate positions (the output of `ssetUnion` / `ssetIntersection` has none:
    `union_support`), after `reset_local_connectivity`
    * every stored entry is in `(0, 1]`,
    * the graph is symmetric,
    * every row that had a positive entry has a stored entry equal to `1`
      (so its maximum is exactly `1`). -/
theorem combined_unit_rowmax (A : Coo K) (hA : C16.NonNeg A) (hd : NoDup A) :
    (∀ i j v, (i, j, v) ∈ resetLocalConnectivity A → 0 < v ∧ v ≤ 1)
    ∧ (∀ i j v, (i, j, v) ∈ resetLocalConnectivity A → (j, i, v) ∈ resetLocalConnectivity A)
    ∧ (∀ i j0 v0, (i, j0, v0) ∈ A → 0 < v0 → ∃ j, (i, j, 1) ∈ resetLocalConnectivity A) :=
  ⟨C16.reset_range A hA hd, combined_symm A,
   fun i j0 v0 h0 hp => (C16.reset_unit_edge A hA hd i j0 v0 h0 hp).imp fun _ h => h.2.1⟩

/-- the whole pipeline `reset_local_connectivity (A ∪ B)`: for operands in `(0, 1]` every
    sample that has an edge in either operand ends with a unit edge, and all weights are in
    `(0, 1]`, symmetric. -/
theorem union_then_reset (eps : K) (he0 : 0 < eps) (he1 : eps ≤ 1) (A B U : Coo K)
    (hA : PosUnit A) (hB : PosUnit B) (hU : ssetUnion eps A B = some U) :
    (∀ i j v, (i, j, v) ∈ resetLocalConnectivity U → 0 < v ∧ v ≤ 1)
    ∧ (∀ i j v, (i, j, v) ∈ resetLocalConnectivity U → (j, i, v) ∈ resetLocalConnectivity U)
    ∧ (∀ i j0 v0, ((i, j0, v0) ∈ A ∨ (i, j0, v0) ∈ B) →
        ∃ j, (i, j, 1) ∈ resetLocalConnectivity U) := by
  have hPU := union_range eps he0 he1 A B hA hB U hU
  obtain ⟨h1, h2, h3⟩ := combined_unit_rowmax U hPU.nonNeg (union_support eps A B U hU).2.2
  refine ⟨h1, h2, fun i j0 v0 hmem => ?_⟩
  -- the position of an edge of either operand is stored in `U`, with a positive value
  obtain ⟨v, hv⟩ := (union_support_mem hU i j0).2
    (hmem.imp (fun h => ⟨v0, h⟩) (fun h => ⟨v0, h⟩))
  exact h3 i j0 v hv (hPU _ hv).1

end

/-- `reprocess_row` raises every entry of the row to one common, strictly positive power
    (the exponent found by the bisection; positivity is the loop invariant `lo < mid`, `0 ≤ lo`),
    for every input, tolerance, target and iteration count. -/
theorem reprocess_is_power (tol target : ℝ) (n : Nat) (ps : List ℝ) :
    ∃ t : ℝ, 0 < t ∧ reprocessRow realT tol target n ps = ps.map (fun x => x ^ t) :=
  have h := bracket_state realT tol target n ps
  ⟨_, h.1.trans_lt h.2.1, rfl⟩

theorem reprocess_range (tol target : ℝ) (n : Nat) (ps : List ℝ)
    (hps : ∀ p ∈ ps, 0 < p ∧ p ≤ 1) :
    ∀ q ∈ reprocessRow realT tol target n ps, 0 < q ∧ q ≤ 1 := by
  obtain ⟨t, ht, he⟩ := reprocess_is_power tol target n ps
  intro q hq
  rw [he, List.mem_map] at hq
  obtain ⟨p, hp, rfl⟩ := hq
  obtain ⟨h0, h1⟩ := hps p hp
  exact ⟨Real.rpow_pos_of_pos h0 _, Real.rpow_le_one (le_of_lt h0) h1 (le_of_lt ht)⟩

theorem reprocess_length (tol target : ℝ) (n : Nat) (ps : List ℝ) :
    (reprocessRow realT tol target n ps).length = ps.length := by
  obtain ⟨t, _, he⟩ := reprocess_is_power tol target n ps
  rw [he, List.length_map]

/-- an entry equal to `1` stays `1`, at the same index (`1 ^ t = 1`) … -/
theorem reprocess_one (tol target : ℝ) (n : Nat) (ps : List ℝ) (k : Nat) (h : ps[k]? = some 1) :
    (reprocessRow realT tol target n ps)[k]? = some 1 := by
  obtain ⟨t, _, he⟩ := reprocess_is_power tol target n ps
  rw [he, List.getElem?_map, h]; simp

/-- … so the unit row maximum survives: `reprocess_row` keeps `max = 1`. -/
theorem reprocess_unit_max (tol target : ℝ) (n : Nat) (ps : List ℝ)
    (hps : ∀ p ∈ ps, 0 < p ∧ p ≤ 1) (h1 : (1:ℝ) ∈ ps) :
    (1:ℝ) ∈ reprocessRow realT tol target n ps
      ∧ ∀ q ∈ reprocessRow realT tol target n ps, q ≤ 1 := by
  refine ⟨?_, fun q hq => (reprocess_range tol target n ps hps q hq).2⟩
  obtain ⟨t, _, he⟩ := reprocess_is_power tol target n ps
  rw [he, List.mem_map]
  exact ⟨1, h1, Real.one_rpow _⟩

/-- the transformation is monotone, hence preserves the ranking of the neighbours:
    if entry `k` is at most entry `k'` before, it is so after. -/
theorem reprocess_mono (tol target : ℝ) (n : Nat) (ps : List ℝ) (k k' : Nat) (p q : ℝ)
    (hk : ps[k]? = some p) (hk' : ps[k']? = some q) (hp : 0 ≤ p) (hpq : p ≤ q) :
    ∃ p' q', (reprocessRow realT tol target n ps)[k]? = some p'
      ∧ (reprocessRow realT tol target n ps)[k']? = some q' ∧ p' ≤ q' := by
  obtain ⟨t, ht, he⟩ := reprocess_is_power tol target n ps
  refine ⟨p ^ t, q ^ t, ?_, ?_, Real.rpow_le_rpow hp hpq (le_of_lt ht)⟩
  · rw [he, List.getElem?_map, hk]; rfl
  · rw [he, List.getElem?_map, hk']; rfl

def exA : Coo ℚ := [(0, 1, 1), (0, 2, 1/2), (1, 0, 1/4)]
def exB : Coo ℚ := [(0, 1, 1/2), (2, 1, 1), (1, 0, 1/2)]

-- the hypotheses of `union_range` hold on two small operands; the two orders of the union store the
-- same triples in different order (`union_comm`)
theorem exA_posUnit : PosUnit exA := by unfold PosUnit; decide +kernel
theorem exB_posUnit : PosUnit exB := by unfold PosUnit; decide +kernel

example : PosUnit exA := exA_posUnit
example : PosUnit exB := exB_posUnit

example : ssetUnion (1/100000000) exA exB
    = some [(0, 1, 1), (0, 2, 5/8), (1, 0, 5/8), (2, 1, 1)] := by decide +kernel
example : ssetUnion (1/100000000) exB exA
    = some [(0, 1, 1), (2, 1, 1), (1, 0, 5/8), (0, 2, 5/8)] := by decide +kernel

-- `union_then_reset`: samples 2 and 1, which have an edge in one operand each, end with a unit edge
example : (2, 1, (1:ℚ)) ∈ resetLocalConnectivity [(0, 1, 1), (0, 2, 5/8), (1, 0, 5/8), (2, 1, 1)] := by
  decide +kernel
example : (1, 0, (1:ℚ)) ∈ resetLocalConnectivity [(0, 1, 1), (0, 2, 5/8), (1, 0, 5/8), (2, 1, 1)] := by
  decide +kernel

-- `intersection_support`: both flavours succeed on the example (so the hypothesis
-- `ssetIntersection … = some U` is satisfiable), and the contrast only has positions of `exA`
example : (ssetIntersection C16.ratT (1/100000000) (1/2) false (1/2) exA exB).isSome = true := by
  decide +kernel
example : (ssetIntersection C16.ratT (1/100000000) (1/2) true (1/2) exA exB).map
    (fun U => U.map (fun t => (t.1, t.2.1))) = some [(0, 1), (0, 2), (1, 0)] := by
  decide +kernel

-- `reprocess_range` / `reprocess_unit_max`: hypotheses are satisfiable
example : ∀ p ∈ ([1, 1/2, 1/4] : List ℝ), 0 < p ∧ p ≤ 1 := by
  intro p hp
  simp only [List.mem_cons, List.not_mem_nil, or_false] at hp
  rcases hp with rfl | rfl | rfl <;> norm_num

end C18
end Umap
