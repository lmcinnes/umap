/-
  C13 — sparse-input metrics agree with their dense counterparts: for every metric of
  umap/sparse.py, `sX x y = X (toDense n x) (toDense n y)`.

  Model: `Umap.Sparse` (umap/sparse.py) against `Umap.Metrics` (umap/distances.py).  Everything
  is proved over an arbitrary linear ordered field `K` (so over ℚ and ℝ at once); the metrics
  that call `sqrt` / `pow` take the few facts needed about them as hypotheses, discharged for the
  real instance `realT` in `realT_sqrt_props` and the `…_real` corollaries.

  How the proofs go.  A sparse row is a `Row n x` (sorted, indices `< n`; UmapProofs/SparseMerge),
  and `Row` is closed under the sparse operations.  One lemma, `sum_look`, turns a sum over the
  stored entries of a row into a sum over the positions `0 … n-1`; it and its instance for
  counting, `length_eq_countP`, hold for any value type and come first.  Over the field, `get x k`
  is the value at position `k`; a merge whose cell functions compute `F` acts pointwise as `F`
  (`get_merge_of`; `sparseSum` / `Diff` / `Mul` are instances).  `sumL_vals` is `sum_look` in the
  form the metrics use (`length_merge` for counts); on the dense side `map_zip_toDense` does the
  same without any hypothesis, and `sumL_vals_zip` is the two together: the sparse sum of an
  operation's result is the dense sum over the zipped rows.  A metric theorem rewrites its sparse
  sums that way (or compares position by position); the code's guards against a zero denominator
  are identities in a field (`ite_isZ_div`, `ite_pos_div`).  Chebyshev is a maximum, not a sum, and
  goes by membership instead: the stored differences and the dense ones are the same values up to
  `0` (`maxL_congr`).  The binary family goes through the three support counts (`sCounts_eq`),
  which need "no stored zero" (`Canonical`).

  Hypotheses are the ones real inputs satisfy (sorted CSR rows with indices `< n`; no stored zero
  for the binary family; non-negative data for hellinger; counts `≥ 1` for ll_dirichlet); the
  examples at the end exhibit concrete rows satisfying them and show that sortedness / "no stored
  zero" cannot be dropped.
-/
import UmapModel.Sparse
import UmapProofs.SparseMerge
import UmapProofs.MetricsLemmas
import UmapProofs.RealT

set_option linter.unusedSectionVars false -- instance binders of fixed statements

namespace Umap
namespace C13
open Sparse

section positions
/- Sums and counts over the stored entries of a row, read position by position.  Any value type:
   this continues UmapProofs/SparseMerge with `Finset` sums at hand. -/
variable {α : Type}

theorem list_sum_range {M : Type} [AddCommMonoid M] (f : Nat → M) (n : Nat) :
    ((List.range n).map f).sum = ∑ k ∈ Finset.range n, f k := rfl

theorem sum_look {M : Type} [AddCommMonoid M] (H : Nat → α → M) {n : Nat} {z : SVec α}
    (hz : Row n z) :
    (z.map (fun p => H p.1 p.2)).sum = ∑ k ∈ Finset.range n, (look z k).elim 0 (H k) := by
  induction z with
  | nil => simp
  | cons p t ih =>
    obtain ⟨i, a⟩ := p
    have hs := (sorted_cons i a t).1 hz.1
    -- position `i` holds `a`; every other position reads the tail
    have e : ∀ k, (look ((i, a) :: t) k).elim 0 (H k)
        = (if i = k then H i a else 0) + (look t k).elim 0 (H k) := by
      intro k
      rw [look_cons]
      by_cases hk : i = k
      · subst hk; simp [look_none_of_lt t i hs.1]
      · simp [hk]
    simp only [e]
    rw [Finset.sum_add_distrib, Finset.sum_ite_eq (Finset.range n) i (fun _ => H i a),
      if_pos (Finset.mem_range.2 (hz.2 (i, a) List.mem_cons_self)),
      ← ih ⟨hs.2, fun p hp => hz.2 p (List.mem_cons_of_mem _ hp)⟩, List.map_cons, List.sum_cons]

theorem countP_eq_sum {β : Type} (q : β → Bool) (l : List β) :
    l.countP q = (l.map (fun a => if q a then 1 else 0)).sum := by
  induction l with
  | nil => rfl
  | cons a l ih =>
    rw [List.countP_cons, ih, List.map_cons, List.sum_cons]
    split_ifs <;> omega

theorem length_eq_countP {n : Nat} {z : SVec α} (hz : Row n z) :
    z.length = (List.range n).countP fun k => (look z k).isSome := by
  have h := sum_look (M := Nat) (fun _ _ => 1) hz
  rw [List.map_const', List.sum_replicate, smul_eq_mul, mul_one] at h
  rw [h, countP_eq_sum, list_sum_range]
  exact Finset.sum_congr rfl fun k _ => by cases look z k <;> rfl

/-- the number of positions `0 … n-1` that fail `q`, as a sum over the positions. -/
theorem cast_sub_countP {R : Type} [Semiring R] (q : Nat → Bool) (n : Nat) :
    ((n - (List.range n).countP q : Nat) : R) = ∑ k ∈ Finset.range n, if q k then 0 else 1 := by
  have hn := List.length_eq_countP_add_countP q (l := List.range n)
  rw [List.length_range] at hn
  rw [Nat.sub_eq_of_eq_add' hn, countP_eq_sum, list_sum_range, Nat.cast_sum]
  refine Finset.sum_congr rfl (fun k _ => ?_)
  cases q k <;> simp

theorem Row.length_le {n : Nat} {z : SVec α} (hz : Row n z) : z.length ≤ n := by
  rw [length_eq_countP hz]
  exact List.countP_le_length.trans_eq List.length_range

theorem length_emit_append (i : Nat) (o : Option α) (r : SVec α) :
    ((match o with | some v => [(i, v)] | none => []) ++ r).length
      = (if o.isSome then 1 else 0) + r.length := by
  cases o <;> simp [Nat.add_comm]

end positions

section field
/- `K` gains its instances in three steps, so that a lemma carries only what it needs: a field for
   `get`, `toDense` and the sums of stored values; a linear order where the model tests for zero
   (`isZ`, `keepNZ`, `nzB`); the ordered field for the metrics themselves. -/
variable {K : Type} [Field K]

/-- the stored value at index `i`, or `0`. -/
def get (x : SVec K) (i : Nat) : K :=
  match x.find? (·.1 == i) with | some p => p.2 | none => 0

theorem get_eq_look (x : SVec K) (i : Nat) : get x i = (look x i).getD 0 := by
  unfold get look
  cases x.find? (·.1 == i) <;> rfl

/-- a merge whose cell functions compute `F` — on a common index, and with `0` for the side that
    stores nothing — acts pointwise as `F`.  The sparse operations are instances. -/
theorem get_merge_of (F : K → K → K) {f : K → K → Option K} {g1 g2 : K → Option K}
    (hf : ∀ a b, (f a b).getD 0 = F a b) (h1 : ∀ a, (g1 a).getD 0 = F a 0)
    (h2 : ∀ b, (g2 b).getD 0 = F 0 b) (h0 : F 0 0 = 0) {x y : SVec K} (hx : Sorted x)
    (hy : Sorted y) (i : Nat) : get (merge f g1 g2 x y) i = F (get x i) (get y i) := by
  rw [get_eq_look, look_merge f g1 g2 x y hx hy, get_eq_look x, get_eq_look y]
  cases look x i with
  | none =>
    cases look y i with
    | none => exact h0.symm
    | some b => exact h2 b
  | some a =>
    cases look y i with
    | none => exact h1 a
    | some b => exact hf a b

theorem get_mapVal (h : K → K) (h0 : h 0 = 0) (y : SVec K) (i : Nat) :
    get (y.map (fun p => (p.1, h p.2))) i = h (get y i) := by
  rw [get_eq_look, get_eq_look, look_mapVal]
  cases look y i <;> simp [h0]

theorem get_of_mem (d : SVec K) (hd : Sorted d) (p : Nat × K) (hp : p ∈ d) : get d p.1 = p.2 := by
  rw [get_eq_look, look_of_mem d hd p hp]; rfl

theorem toDense_eq (n : Nat) (x : SVec K) : toDense n x = (List.range n).map (get x) := rfl

theorem length_toDense (n : Nat) (x : SVec K) : (toDense n x).length = n := by
  simp [toDense_eq]

theorem toDense_zipWith (F : K → K → K) (n : Nat) (x y z : SVec K)
    (h : ∀ i, get z i = F (get x i) (get y i)) :
    toDense n z = List.zipWith F (toDense n x) (toDense n y) := by
  simp only [toDense_eq, List.zipWith_map, List.zipWith_self]
  exact List.map_congr_left (fun i _ => h i)

/-- `sum_look` in the form the metrics use: `G` agrees with `h` on stored entries and vanishes on
    absent ones. -/
theorem sumL_vals_of {n : Nat} {z : SVec K} (hz : Row n z) (h : K → K) (G : Nat → K)
    (hG : ∀ k, G k = (look z k).elim 0 h) :
    sumL ((vals z).map h) = sumL ((List.range n).map G) := by
  rw [sumL_eq_sum, sumL_eq_sum, vals, List.map_map, list_sum_range,
    Finset.sum_congr rfl (fun k _ => hG k), ← sum_look (fun _ a => h a) hz]
  rfl

theorem sumL_vals {n : Nat} {z : SVec K} (hz : Row n z) (h : K → K) (h0 : h 0 = 0) :
    sumL ((vals z).map h) = sumL ((List.range n).map (fun k => h (get z k))) :=
  sumL_vals_of hz h _ fun k => by rw [get_eq_look]; cases look z k <;> simp [h0]

theorem sumL_vals_id {n : Nat} {z : SVec K} (hz : Row n z) :
    sumL (vals z) = sumL ((List.range n).map (get z)) := by
  rw [← List.map_id (vals z)]; exact sumL_vals hz id rfl

theorem sum_toDense {n : Nat} {x : SVec K} (X : Row n x) : sumL (toDense n x) = sumL (vals x) :=
  (sumL_vals_id X).symm

theorem zip_toDense (n : Nat) (x y : SVec K) :
    (toDense n x).zip (toDense n y) = (List.range n).map (fun k => (get x k, get y k)) := by
  rw [toDense_eq, toDense_eq, List.zip_map']

theorem map_zip_toDense {β : Type} (n : Nat) (x y : SVec K) (G : K × K → β) :
    ((toDense n x).zip (toDense n y)).map G
      = (List.range n).map (fun k => G (get x k, get y k)) := by
  rw [zip_toDense, List.map_map]; rfl

/-- the metric recipe in one step: a sum over the stored values of a row `z` that is pointwise
    `F` of `x` and `y` (see `get_merge_of`) is the dense sum over the zipped rows. -/
theorem sumL_vals_zip (h : K → K) (h0 : h 0 = 0) (F : K → K → K) {n : Nat} {x y z : SVec K}
    (Z : Row n z) (hz : ∀ k, get z k = F (get x k) (get y k)) :
    sumL ((vals z).map h)
      = sumL (((toDense n x).zip (toDense n y)).map fun p => h (F p.1 p.2)) := by
  rw [sumL_vals Z h h0, map_zip_toDense]
  exact congrArg sumL (List.map_congr_left fun k _ => by rw [hz k])

variable [LinearOrder K]

theorem keepNZ_getD (v : K) : (keepNZ v).getD 0 = v := by
  unfold keepNZ isZ
  by_cases h : v = 0 <;> simp [h]

theorem keepNZ_ne {v w : K} (h : keepNZ v = some w) : w ≠ 0 := by
  unfold keepNZ isZ at h
  by_cases h0 : v = 0
  · simp [h0] at h
  · simp [h0] at h; exact h ▸ h0

theorem get_sparseSum {x y : SVec K} (hx : Sorted x) (hy : Sorted y) (i : Nat) :
    get (sparseSum x y) i = get x i + get y i :=
  get_merge_of (fun a b : K => a + b) (fun a b => keepNZ_getD (a + b))
    (fun a => (keepNZ_getD a).trans (add_zero a).symm)
    (fun b => (keepNZ_getD b).trans (zero_add b).symm) (add_zero (0 : K)) hx hy i

theorem get_sparseDiff {x y : SVec K} (hx : Sorted x) (hy : Sorted y) (i : Nat) :
    get (sparseDiff x y) i = get x i - get y i := by
  unfold sparseDiff
  rw [get_sparseSum hx ((sorted_mapVal (fun v : K => -v) y).2 hy),
    get_mapVal (fun v : K => -v) (neg_zero (G := K)), sub_eq_add_neg]

theorem get_sparseMul {x y : SVec K} (hx : Sorted x) (hy : Sorted y) (i : Nat) :
    get (sparseMul x y) i = get x i * get y i :=
  get_merge_of (· * ·) (fun _ _ => keepNZ_getD _) (fun a => (mul_zero a).symm)
    (fun b => (zero_mul b).symm) (mul_zero (0 : K)) hx hy i

theorem Row.sparseSum {n : Nat} {x y : SVec K} (hx : Row n x) (hy : Row n y) :
    Row n (sparseSum x y) := hx.merge hy _ _ _

theorem Row.sparseDiff {n : Nat} {x y : SVec K} (hx : Row n x) (hy : Row n y) :
    Row n (sparseDiff x y) := hx.sparseSum (hy.mapVal _)

theorem Row.sparseMul {n : Nat} {x y : SVec K} (hx : Row n x) (hy : Row n y) :
    Row n (sparseMul x y) := hx.merge hy _ _ _

/-- `sparse_sum` stores a value only `if val != 0` (no sortedness needed). -/
theorem sparseSum_nonzero (x y : SVec K) : ∀ p ∈ sparseSum x y, p.2 ≠ 0 := by
  unfold sparseSum
  exact merge_forall_snd (fun v : K => v ≠ 0) _ _ _ (fun _ _ _ => keepNZ_ne)
    (fun _ _ => keepNZ_ne) (fun _ _ => keepNZ_ne) x y

theorem sparseDiff_nonzero (x y : SVec K) : ∀ p ∈ sparseDiff x y, p.2 ≠ 0 :=
  sparseSum_nonzero x _

theorem isZ_iff (v : K) : isZ v = true ↔ v = 0 := eqV_iff v 0

/-- in a field `a / 0 = 0`, so the zero guard is the identity. -/
theorem ite_isZ_div (a d : K) : (if isZ d = true then 0 else a / d) = a / d := by
  split_ifs with h
  · rw [(isZ_iff d).1 h, div_zero]
  · rfl

theorem isZ_sqrt (T : Transc K) (hs : ∀ a, 0 ≤ a → (T.sqrt a = 0 ↔ a = 0)) {s : K} (h : 0 ≤ s) :
    isZ (T.sqrt s) = eqV s 0 := by
  rw [Bool.eq_iff_iff, isZ_iff, eqV_iff]; exact hs s h

theorem nzB_get (x : SVec K) (hnz : ∀ p ∈ x, p.2 ≠ 0) (k : Nat) :
    Metrics.nzB (get x k) = (look x k).isSome := by
  rw [get_eq_look]
  cases h : look x k with
  | none => exact Metrics.nzB_zero
  | some a => exact (Metrics.nzB_iff a).2 (hnz _ (look_some_mem x k a h))

theorem nzB_sub (a b : K) : Metrics.nzB (a - b) = !(eqV a b) := by
  unfold Metrics.nzB
  congr 1
  rw [Bool.eq_iff_iff, eqV_iff, eqV_iff, sub_eq_zero]

theorem countP_nz_vals (x : SVec K) (hnz : ∀ p ∈ x, p.2 ≠ 0) :
    (vals x).countP (fun v => !isZ v) = x.length := by
  have : (vals x).length = x.length := by simp [vals]
  rw [← this, List.countP_eq_length]
  intro v hv
  obtain ⟨p, hp, rfl⟩ := List.mem_map.1 hv
  exact (Metrics.nzB_iff p.2).2 (hnz p hp)

theorem sum_vals_sparseDiff (h : K → K) (h0 : h 0 = 0) {n : Nat} {x y : SVec K}
    (X : Row n x) (Y : Row n y) :
    sumL ((vals (sparseDiff x y)).map h)
      = sumL ((Metrics.diffs (toDense n x) (toDense n y)).map h) := by
  rw [Metrics.map_diffs]
  exact sumL_vals_zip h h0 (· - ·) (X.sparseDiff Y) (get_sparseDiff X.1 Y.1)

variable [IsStrictOrderedRing K]

/-- the value at index `i` of `merge f g1 g2 x y` (sorted `x`, `y`) is decided by where `i` is
    stored: in both, only in `x`, only in `y`, or in neither. -/
theorem get_merge (f : K → K → Option K) (g1 g2 : K → Option K) (x y : SVec K)
    (hx : Sorted x) (hy : Sorted y) (i : Nat) :
    get (merge f g1 g2 x y) i =
      match look x i, look y i with
      | some a, some b => (f a b).getD 0
      | some a, none => (g1 a).getD 0
      | none, some b => (g2 b).getD 0
      | none, none => 0 := by
  rw [get_eq_look, look_merge f g1 g2 x y hx hy i]
  cases look x i <;> cases look y i <;> rfl

theorem sparseMul_nonzero (x y : SVec K) : ∀ p ∈ sparseMul x y, p.2 ≠ 0 := by
  unfold sparseMul
  exact merge_forall_snd (fun v : K => v ≠ 0) _ _ _ (fun _ _ _ => keepNZ_ne)
    (fun _ _ h => by cases h) (fun _ _ h => by cases h) x y

theorem getElem?_toDense (n : Nat) (x : SVec K) (i : Nat) (h : i < n) :
    (toDense n x)[i]? = some (get x i) := by
  simp [toDense_eq, h]

/-- (the hypothesis "all indices `< n`" of the informal statement is not needed: `toDense n`
    simply ignores larger indices on both sides.) -/
theorem toDense_sparseSum (n : Nat) (x y : SVec K) (hx : Sorted x) (hy : Sorted y) :
    toDense n (sparseSum x y) = List.zipWith (· + ·) (toDense n x) (toDense n y) :=
  toDense_zipWith _ n x y _ (get_sparseSum hx hy)

theorem toDense_sparseDiff (n : Nat) (x y : SVec K) (hx : Sorted x) (hy : Sorted y) :
    toDense n (sparseDiff x y) = List.zipWith (· - ·) (toDense n x) (toDense n y) :=
  toDense_zipWith _ n x y _ (get_sparseDiff hx hy)

theorem toDense_sparseMul (n : Nat) (x y : SVec K) (hx : Sorted x) (hy : Sorted y) :
    toDense n (sparseMul x y) = List.zipWith (· * ·) (toDense n x) (toDense n y) :=
  toDense_zipWith _ n x y _ (get_sparseMul hx hy)

theorem unionSize_comm (x y : SVec K) : unionSize x y = unionSize y x := by
  unfold unionSize
  rw [merge_swap]

theorem get_nil (k : Nat) : get ([] : SVec K) k = 0 := rfl

theorem length_merge {α : Type} {n : Nat} {x y : SVec α} (hx : Row n x) (hy : Row n y)
    (f : α → α → Option α) (g1 g2 : α → Option α) :
    (merge f g1 g2 x y).length = (List.range n).countP fun k =>
      (match look x k, look y k with
        | some a, some b => f a b
        | some a, none => g1 a
        | none, some b => g2 b
        | none, none => none).isSome := by
  rw [length_eq_countP (hx.merge hy f g1 g2)]
  simp only [look_merge f g1 g2 x y hx.1 hy.1]
  rfl

theorem interSize_eq {α : Type} [OfNat α 1] {n : Nat} {x y : SVec α} (hx : Row n x) (hy : Row n y) :
    interSize x y = (List.range n).countP fun k => (look x k).isSome && (look y k).isSome := by
  unfold interSize
  rw [length_merge hx hy]
  exact congrArg (List.countP · _) (funext fun k => by cases look x k <;> cases look y k <;> rfl)

theorem diffs_toDense (n : Nat) (x y : SVec K) (hx : Sorted x) (hy : Sorted y) :
    Metrics.diffs (toDense n x) (toDense n y) = toDense n (sparseDiff x y) := by
  unfold Metrics.diffs
  rw [toDense_sparseDiff n x y hx hy, List.map_zip_eq_zipWith]
  rfl

theorem sManhattan_eq (n : Nat) (x y : SVec K)
    (hx : Sorted x) (hy : Sorted y) (hxn : ∀ p ∈ x, p.1 < n) (hyn : ∀ p ∈ y, p.1 < n) :
    sManhattan x y = Metrics.manhattan (toDense n x) (toDense n y) :=
  sum_vals_sparseDiff absV absV_zero ⟨hx, hxn⟩ ⟨hy, hyn⟩

theorem sEuclidean_eq (T : Transc K) (n : Nat) (x y : SVec K)
    (hx : Sorted x) (hy : Sorted y) (hxn : ∀ p ∈ x, p.1 < n) (hyn : ∀ p ∈ y, p.1 < n) :
    sEuclidean T x y = Metrics.euclidean T (toDense n x) (toDense n y) := by
  unfold sEuclidean Metrics.euclidean
  rw [sum_vals_sparseDiff (fun d => d * d) (mul_zero 0) ⟨hx, hxn⟩ ⟨hy, hyn⟩]

/-- `hp`: the power function sends `0` to `0` at exponent `p` (true of `Real.rpow` for `p ≠ 0`). -/
theorem sMinkowski_eq (T : Transc K) (p : K) (hp : T.pow 0 p = 0) (n : Nat) (x y : SVec K)
    (hx : Sorted x) (hy : Sorted y) (hxn : ∀ p ∈ x, p.1 < n) (hyn : ∀ p ∈ y, p.1 < n) :
    sMinkowski T p x y = Metrics.minkowski T p (toDense n x) (toDense n y) := by
  unfold sMinkowski Metrics.minkowski
  rw [sum_vals_sparseDiff (fun d => T.pow (absV d) p) (by rw [absV_zero, hp]) ⟨hx, hxn⟩ ⟨hy, hyn⟩]

/-- canonical CSR row: strictly increasing indices and no stored zero. -/
def Canonical (x : SVec K) : Prop := Sorted x ∧ ∀ p ∈ x, p.2 ≠ 0

theorem countP_split {β : Type} (p q : β → Bool) (l : List β) :
    l.countP p = l.countP (fun a => p a && q a) + l.countP (fun a => p a && !q a) := by
  rw [List.countP_eq_countP_filter_add l p q, List.countP_filter, List.countP_filter]

/-- what the sparse binary metrics read off the index arrays (`arr_intersect(ind1, ind2).shape[0]`,
    `ind1.shape[0]`, `ind2.shape[0]`) are the dense counts of the positions that are non-zero in
    both vectors / only in the first / only in the second.  Needs `Canonical`: a stored zero is
    counted by the sparse code only (example at the end of the file). -/
theorem sCounts_eq (n : Nat) (x y : SVec K) (hx : Canonical x) (hy : Canonical y)
    (hxn : ∀ p ∈ x, p.1 < n) (hyn : ∀ p ∈ y, p.1 < n) :
    sCounts n x y = Metrics.counts (toDense n x) (toDense n y) := by
  have X : Row n x := ⟨hx.1, hxn⟩
  have Y : Row n y := ⟨hy.1, hyn⟩
  rw [Metrics.counts_eq_countP, length_toDense, zip_toDense]
  simp only [List.countP_map, Function.comp_def, nzB_get x hx.2, nzB_get y hy.2]
  -- `|x| = tt + tf` and `|y| = tt + ft`, position by position
  have h1 := length_eq_countP X
  have h2 := length_eq_countP Y
  rw [countP_split _ (fun k => (look y k).isSome)] at h1
  rw [countP_split _ (fun k => (look x k).isSome)] at h2
  simp only [Bool.and_comm (look y _).isSome] at h2
  unfold sCounts
  dsimp only
  rw [interSize_eq X Y, h1, h2, Nat.add_sub_cancel_left, Nat.add_sub_cancel_left]

section binary
variable (n : Nat) (x y : SVec K) (hx : Canonical x) (hy : Canonical y)
  (hxn : ∀ p ∈ x, p.1 < n) (hyn : ∀ p ∈ y, p.1 < n)
include hx hy hxn hyn

theorem sJaccard_eq :
    sJaccard x y = Metrics.jaccardC (Metrics.counts (toDense n x) (toDense n y)) := by
  rw [← sCounts_eq n x y hx hy hxn hyn]; rfl

theorem sMatching_eq :
    sMatching n x y = Metrics.matchingC (Metrics.counts (toDense n x) (toDense n y)) := by
  rw [← sCounts_eq n x y hx hy hxn hyn]; rfl

theorem sDice_eq :
    sDice x y = Metrics.diceC (Metrics.counts (toDense n x) (toDense n y)) := by
  rw [← sCounts_eq n x y hx hy hxn hyn]; rfl

theorem sKulsinski_eq :
    sKulsinski n x y = Metrics.kulsinskiC (Metrics.counts (toDense n x) (toDense n y)) := by
  rw [← sCounts_eq n x y hx hy hxn hyn]; rfl

theorem sRogersTanimoto_eq :
    sRogersTanimoto n x y
      = Metrics.rogersTanimotoC (Metrics.counts (toDense n x) (toDense n y)) := by
  rw [← sCounts_eq n x y hx hy hxn hyn]; rfl

theorem sSokalMichener_eq :
    sSokalMichener n x y
      = Metrics.sokalMichenerC (Metrics.counts (toDense n x) (toDense n y)) := by
  rw [← sCounts_eq n x y hx hy hxn hyn]; rfl

theorem sSokalSneath_eq :
    sSokalSneath x y = Metrics.sokalSneathC (Metrics.counts (toDense n x) (toDense n y)) := by
  rw [← sCounts_eq n x y hx hy hxn hyn]; rfl

end binary

/-- russellrao reads the supports off the index lists: on rows without stored zero (sorted or not)
    it is the dense formula on the sparse counts. -/
theorem sRussellRao_eq_counts (n : Nat) (x y : SVec K) (hx : ∀ p ∈ x, p.2 ≠ 0)
    (hy : ∀ p ∈ y, p.2 ≠ 0) :
    sRussellRao n x y = Metrics.russellRaoC (sCounts n x y) := by
  unfold sRussellRao Metrics.russellRaoC sCounts
  have hl1 := interSize_le_left x y
  have hl2 := interSize_le_right x y
  simp only [countP_nz_vals x hx, countP_nz_vals y hy]
  -- the sparse test `tt = |x| ∧ tt = |y|` is the dense `tf = 0 ∧ ft = 0`, because `tt ≤ |x|, |y|`
  have key : ∀ {t a : Nat}, t ≤ a → (t = a ↔ a - t = 0) := fun h => by
    rw [Nat.sub_eq_zero_iff_le]
    exact ⟨fun e => e.ge, Nat.le_antisymm h⟩
  have hc : (interSize x y = x.length ∧ interSize x y = y.length)
      ↔ (x.length - interSize x y = 0 ∧ y.length - interSize x y = 0) :=
    and_congr (key hl1) (key hl2)
  by_cases h : x.map (·.1) = y.map (·.1)
  · have h1 := interSize_of_same_indices x y h
    have h2 : x.length = y.length := by simpa using congrArg List.length h
    rw [if_pos h, if_pos (hc.1 ⟨h1, h1.trans h2⟩)]
  · rw [if_neg h]
    exact if_congr hc rfl rfl

theorem sRussellRao_eq (n : Nat) (x y : SVec K) (hx : Canonical x) (hy : Canonical y)
    (hxn : ∀ p ∈ x, p.1 < n) (hyn : ∀ p ∈ y, p.1 < n) :
    sRussellRao n x y = Metrics.russellRaoC (Metrics.counts (toDense n x) (toDense n y)) := by
  rw [← sCounts_eq n x y hx hy hxn hyn]
  exact sRussellRao_eq_counts n x y hx.2 hy.2

/-- hamming: the number of stored entries of the sparse difference is the number of positions
    where the dense vectors differ (sortedness suffices; stored zeros are allowed). -/
theorem sHamming_eq (n : Nat) (x y : SVec K) (hx : Sorted x) (hy : Sorted y)
    (hxn : ∀ p ∈ x, p.1 < n) (hyn : ∀ p ∈ y, p.1 < n) :
    sHamming n x y = Metrics.hamming (toDense n x) (toDense n y) := by
  unfold sHamming Metrics.hamming
  rw [length_toDense, length_eq_countP (Row.sparseDiff ⟨hx, hxn⟩ ⟨hy, hyn⟩), zip_toDense,
    List.countP_map]
  congr 2
  funext k
  show (look (sparseDiff x y) k).isSome = !eqV (get x k) (get y k)
  rw [← nzB_sub, ← get_sparseDiff hx hy, nzB_get _ (sparseDiff_nonzero x y)]

theorem sChebyshev_eq (n : Nat) (x y : SVec K) (hx : Sorted x) (hy : Sorted y)
    (hxn : ∀ p ∈ x, p.1 < n) (hyn : ∀ p ∈ y, p.1 < n) :
    sChebyshev x y = Metrics.chebyshev (toDense n x) (toDense n y) := by
  unfold sChebyshev Metrics.chebyshev
  rw [diffs_toDense n x y hx hy]
  have D : Row n (sparseDiff x y) := Row.sparseDiff ⟨hx, hxn⟩ ⟨hy, hyn⟩
  set d := sparseDiff x y
  symm
  apply maxL_congr
  · intro v hv
    obtain ⟨w, hw, rfl⟩ := List.mem_map.1 hv
    rw [toDense_eq] at hw
    obtain ⟨k, -, rfl⟩ := List.mem_map.1 hw
    rw [get_eq_look]
    cases h : look d k with
    | none => left; exact absV_zero
    | some a =>
      right
      exact List.mem_map.2 ⟨a, List.mem_map.2 ⟨(k, a), look_some_mem d k a h, rfl⟩, rfl⟩
  · intro v hv
    obtain ⟨w, hw, rfl⟩ := List.mem_map.1 hv
    obtain ⟨p, hp, rfl⟩ := List.mem_map.1 hw
    refine List.mem_map.2 ⟨p.2, ?_, rfl⟩
    rw [toDense_eq]
    exact List.mem_map.2 ⟨p.1, List.mem_range.2 (D.2 p hp), get_of_mem d D.1 p hp⟩

theorem sBrayCurtis_eq (n : Nat) (x y : SVec K) (hx : Sorted x) (hy : Sorted y)
    (hxn : ∀ p ∈ x, p.1 < n) (hyn : ∀ p ∈ y, p.1 < n) :
    sBrayCurtis x y = Metrics.brayCurtis (toDense n x) (toDense n y) := by
  have X : Row n x := ⟨hx, hxn⟩
  have Y : Row n y := ⟨hy, hyn⟩
  have hden := sumL_vals_zip absV absV_zero (· + ·) (X.sparseSum Y) (get_sparseSum hx hy)
  unfold sBrayCurtis Metrics.brayCurtis
  dsimp only
  rw [sumL_vals_zip absV absV_zero (· - ·) (X.sparseDiff Y) (get_sparseDiff hx hy), hden,
    ite_isZ_div, ite_pos_div (sumL_map_nonneg _ _ fun _ _ => absV_nonneg _)]
  -- an empty sum row makes the denominator `0`, and `a / 0 = 0`
  split_ifs with h
  · rw [← hden, List.length_eq_zero_iff.1 h, sumL_nil, div_zero]
  · rfl

/-- the dense summand's guard `0 < den` is the identity, because `den ≥ 0` and `a / 0 = 0`. -/
theorem canberra_term {d : K} (hd : 0 ≤ d) (w : K) :
    (if 0 < d then w / d else 0) = w * (1 / d) :=
  (ite_pos_div hd w).trans (mul_one_div w d).symm

theorem sCanberra_eq (n : Nat) (x y : SVec K) (hx : Sorted x) (hy : Sorted y)
    (hxn : ∀ p ∈ x, p.1 < n) (hyn : ∀ p ∈ y, p.1 < n) :
    sCanberra x y = Metrics.canberra (toDense n x) (toDense n y) := by
  have X : Row n x := ⟨hx, hxn⟩
  have Y : Row n y := ⟨hy, hyn⟩
  have A := (X.mapVal absV).sparseSum (Y.mapVal absV)
  have N := (X.sparseDiff Y).mapVal absV
  unfold sCanberra Metrics.canberra
  rw [map_zip_toDense, sumL_vals_id (N.sparseMul (A.mapVal fun v : K => 1 / v))]
  refine congrArg sumL (List.map_congr_left fun k _ => ?_)
  dsimp only
  rw [get_sparseMul N.1 (A.mapVal _).1, get_mapVal absV absV_zero,
    get_sparseDiff hx hy, get_mapVal (fun v : K => 1 / v) (div_zero (1 : K)),
    get_sparseSum (X.mapVal _).1 (Y.mapVal _).1,
    get_mapVal absV absV_zero, get_mapVal absV absV_zero]
  refine (canberra_term ?_ _).symm
  exact add_nonneg (absV_nonneg _) (absV_nonneg _)

/-- `hs`, `hm`: on non-negative arguments `sqrt` vanishes only at `0` and is multiplicative
    (both true of `Real.sqrt`, see the example below). -/
theorem sCosine_eq (T : Transc K) (hs : ∀ a, 0 ≤ a → (T.sqrt a = 0 ↔ a = 0))
    (hm : ∀ a b, 0 ≤ a → 0 ≤ b → T.sqrt a * T.sqrt b = T.sqrt (a * b))
    (n : Nat) (x y : SVec K) (hx : Sorted x) (hy : Sorted y)
    (hxn : ∀ p ∈ x, p.1 < n) (hyn : ∀ p ∈ y, p.1 < n) :
    sCosine T x y = Metrics.cosine T (toDense n x) (toDense n y) := by
  have X : Row n x := ⟨hx, hxn⟩
  have Y : Row n y := ⟨hy, hyn⟩
  have nn : ∀ z : SVec K, 0 ≤ sumL ((vals z).map fun v => v * v) :=
    fun z => (Metrics.dot_self_nonneg (vals z)).trans_eq (Metrics.dot_self_eq _)
  unfold sCosine Metrics.cosine Metrics.dot
  dsimp only
  rw [map_zip_toDense, map_zip_toDense, map_zip_toDense,
    ← sumL_vals X (fun v => v * v) (mul_zero 0), ← sumL_vals Y (fun v => v * v) (mul_zero 0),
    sumL_vals_id (X.sparseMul Y), isZ_sqrt T hs (nn x), isZ_sqrt T hs (nn y),
    hm _ _ (nn x) (nn y), funext (get_sparseMul hx hy)]

/-- the sparse early exit `snp < r → 0` is the dense clamp `sqrt (max 0 (1 - r / snp))`. -/
theorem sqrt_clamp (T : Transc K) (hs0 : T.sqrt 0 = 0) {s : K} (hs : 0 < s) (r : K) :
    (if s < r then 0 else T.sqrt (1 - r / s)) = T.sqrt (maxV 0 (1 - r / s)) := by
  rw [maxV_eq_max]
  split_ifs with h
  · rw [max_eq_left (sub_nonpos.2 ((one_le_div hs).2 h.le)), hs0]
  · rw [max_eq_right (sub_nonneg.2 ((div_le_one hs).2 (not_lt.1 h)))]

theorem sumL_vals_pos {z : SVec K} (hz : ∀ p ∈ z, 0 ≤ p.2) (h0 : ¬ eqV (sumL (vals z)) 0 = true) :
    0 < sumL (vals z) :=
  lt_of_le_of_ne (sumL_map_nonneg z _ hz) (fun e => h0 ((eqV_iff _ _).2 e.symm))

/-- hellinger, for non-negative data (the metric's domain).  `hs0`, `hpos`: `sqrt 0 = 0` and
    `sqrt` is positive on positives (true of `Real.sqrt`).  The dense function clamps its radicand
    at `0` (`sqrt (max 0 (1 - r / snp))`), which is what the sparse early exit `snp < r → 0`
    computes, so nothing is assumed about `sqrt` on negative arguments. -/
theorem sHellinger_eq (T : Transc K) (hs0 : T.sqrt 0 = 0) (hpos : ∀ a, 0 < a → 0 < T.sqrt a)
    (n : Nat) (x y : SVec K) (hx : Sorted x) (hy : Sorted y)
    (hxn : ∀ p ∈ x, p.1 < n) (hyn : ∀ p ∈ y, p.1 < n)
    (hxp : ∀ p ∈ x, 0 ≤ p.2) (hyp : ∀ p ∈ y, 0 ≤ p.2) :
    sHellinger T x y = Metrics.hellinger T (toDense n x) (toDense n y) := by
  have X : Row n x := ⟨hx, hxn⟩
  have Y : Row n y := ⟨hy, hyn⟩
  unfold sHellinger Metrics.hellinger isZ
  rw [sum_toDense X, sum_toDense Y,
    sumL_vals_zip T.sqrt hs0 (· * ·) (X.sparseMul Y) (get_sparseMul hx hy)]
  -- the first two guards coincide; past them both norms are positive
  refine ite_congr rfl (fun _ => rfl) fun _ => ite_congr rfl (fun _ => rfl) fun h2 => ?_
  rw [Bool.or_eq_true, not_or] at h2
  exact sqrt_clamp T hs0 (hpos _ (mul_pos (sumL_vals_pos hxp h2.1) (sumL_vals_pos hyp h2.2))) _

theorem foldl_sub {β : Type} (c : β → Bool) (w : β → K) (l : List β) (init : K) :
    l.foldl (fun acc p => if c p then acc else acc - w p) init
      = init - (l.map (fun p => if c p then 0 else w p)).sum := by
  rw [← sumL_eq_sum, ← foldl_sub_eq_sub_sumL]
  exact List.foldl_ext _ _ _ fun a p _ => by split_ifs <;> simp

/-- the dense centred dot product `Σ_k (x_k − mx) (y_k − my)` of two rows of width `n` (the means
    are parameters; `C14.cdot` is the same sum over `Fin n → ℝ` with the means built in). -/
def cdot (n : Nat) (x y : SVec K) (mx my : K) : K :=
  ∑ k ∈ Finset.range n, (get x k - mx) * (get y k - my)

theorem dot_centred (n : Nat) (x y : SVec K) (mx my : K) :
    Metrics.dot ((toDense n x).map (· - mx)) ((toDense n y).map (· - my)) = cdot n x y mx my := by
  unfold Metrics.dot cdot
  rw [toDense_eq, toDense_eq, List.map_map, List.map_map, List.zip_map', List.map_map,
    sumL_eq_sum, list_sum_range]
  rfl

theorem cdot_self_nonneg (n : Nat) (x : SVec K) (m : K) : 0 ≤ cdot n x x m m :=
  (Metrics.dot_self_nonneg _).trans_eq (dot_centred n x x m m)

/-- the centred squared norm computed from the stored entries plus the implicit zeros. -/
theorem sCorrelation_norm {n : Nat} {x : SVec K} (X : Row n x) (m : K) :
    sumL ((vals (x.map (fun p => (p.1, p.2 - m)))).map (fun v => v * v))
        + ((n - x.length : Nat) : K) * (m * m)
      = cdot n x x m m := by
  unfold cdot
  rw [sumL_vals_of (X.mapVal fun a : K => a - m) (fun v : K => v * v)
      (fun k => (look x k).elim 0 fun a => (a - m) * (a - m))
      (fun k => by rw [look_mapVal (fun a : K => a - m)]; cases look x k <;> rfl),
    sumL_eq_sum, list_sum_range, length_eq_countP X, cast_sub_countP, Finset.sum_mul,
    ← Finset.sum_add_distrib]
  -- a stored position contributes `(a - m)²`, an empty one `m²`
  refine Finset.sum_congr rfl fun k _ => ?_
  rw [get_eq_look]
  cases look x k <;> simp

theorem unionSize_eq {α : Type} [OfNat α 1] {n : Nat} {x y : SVec α} (hx : Row n x) (hy : Row n y) :
    unionSize x y = (List.range n).countP fun k => (look x k).isSome || (look y k).isSome := by
  unfold unionSize
  rw [length_merge hx hy]
  exact congrArg (List.countP · _) (funext fun k => by cases look x k <;> cases look y k <;> rfl)

/-- the sparse dot product of the centred rows, corrected for the one-sided and the absent
    positions, is the dense centred dot product. -/
theorem sCorrelation_dp {n : Nat} {x y : SVec K} (X : Row n x) (Y : Row n y) (mx my : K) :
    (y.map (fun p => (p.1, p.2 - my))).foldl
        (fun acc p => if (x.any (·.1 == p.1) && y.any (·.1 == p.1)) then acc else acc - p.2 * mx)
        ((x.map (fun p => (p.1, p.2 - mx))).foldl
          (fun acc p => if (x.any (·.1 == p.1) && y.any (·.1 == p.1)) then acc
            else acc - p.2 * my)
          (sumL (vals (sparseMul (x.map (fun p => (p.1, p.2 - mx)))
            (y.map (fun p => (p.1, p.2 - my)))))))
      + mx * my * ((n - unionSize x y : Nat) : K)
    = cdot n x y mx my := by
  unfold cdot
  have SX := X.mapVal (· - mx)
  have SY := Y.mapVal (· - my)
  rw [foldl_sub, foldl_sub,
    sum_look (fun k a => if (x.any (·.1 == k) && y.any (·.1 == k)) then 0 else a * mx) SY,
    sum_look (fun k a => if (x.any (·.1 == k) && y.any (·.1 == k)) then 0 else a * my) SX,
    sumL_vals_id (SX.sparseMul SY), sumL_eq_sum, list_sum_range,
    unionSize_eq X Y, cast_sub_countP, Finset.mul_sum,
    ← Finset.sum_sub_distrib, ← Finset.sum_sub_distrib, ← Finset.sum_add_distrib]
  refine Finset.sum_congr rfl (fun k _ => ?_)
  rw [get_sparseMul SX.1 SY.1, get_eq_look, get_eq_look, get_eq_look x, get_eq_look y,
    look_mapVal (fun v => v - mx) x k, look_mapVal (fun v => v - my) y k,
    any_eq_look, any_eq_look]
  -- by where `k` is stored; only "in `y` alone" is left to commutativity
  cases look x k <;> cases look y k <;> simp
  ring

/-- `hs`, `hm` as for cosine. -/
theorem sCorrelation_eq (T : Transc K) (hs : ∀ a, 0 ≤ a → (T.sqrt a = 0 ↔ a = 0))
    (hm : ∀ a b, 0 ≤ a → 0 ≤ b → T.sqrt a * T.sqrt b = T.sqrt (a * b))
    (n : Nat) (x y : SVec K) (hx : Sorted x) (hy : Sorted y)
    (hxn : ∀ p ∈ x, p.1 < n) (hyn : ∀ p ∈ y, p.1 < n) :
    sCorrelation T n x y = Metrics.correlation T (toDense n x) (toDense n y) := by
  have X : Row n x := ⟨hx, hxn⟩
  have Y : Row n y := ⟨hy, hyn⟩
  unfold Metrics.correlation Metrics.mean
  rw [sum_toDense X, sum_toDense Y, length_toDense]
  dsimp only
  rw [dot_centred, dot_centred, dot_centred]
  unfold sCorrelation
  by_cases h0 : x.length = 0 ∧ y.length = 0
  · rw [if_pos h0]
    obtain ⟨h1, h2⟩ := h0
    rw [List.length_eq_zero_iff] at h1 h2
    subst h1 h2
    -- both means are `0 / n = 0`, every centred entry is `0`, so the first guard fires
    simp only [cdot, get_nil, vals, List.map_nil, sumL_nil, zero_div, sub_self, mul_zero,
      Finset.sum_const_zero, Bool.and_self, eqV_iff, if_true]
  · rw [if_neg h0]
    simp only
    rw [sCorrelation_dp X Y, sCorrelation_norm X, sCorrelation_norm Y, isZ_sqrt T hs (cdot_self_nonneg n x _),
      isZ_sqrt T hs (cdot_self_nonneg n y _),
      hm _ _ (cdot_self_nonneg n x _) (cdot_self_nonneg n y _)]
    rfl

theorem foldl_three_sums {β M : Type} [AddMonoid M] (c c1 c2 : β → Prop) [DecidablePred c]
    [DecidablePred c1] [DecidablePred c2] (f g h : β → M) (l : List β) (acc : M × M × M) :
    l.foldl (fun (acc : M × M × M) p =>
      if c p then (acc.1 + f p, acc.2.1 + g p, acc.2.2 + h p)
      else (acc.1, (if c1 p then acc.2.1 + g p else acc.2.1),
                   (if c2 p then acc.2.2 + h p else acc.2.2))) acc
    = (acc.1 + (l.map (fun p => if c p then f p else 0)).sum,
       acc.2.1 + (l.map (fun p => if c p ∨ c1 p then g p else 0)).sum,
       acc.2.2 + (l.map (fun p => if c p ∨ c2 p then h p else 0)).sum) := by
  induction l generalizing acc with
  | nil => simp only [List.foldl_nil, List.map_nil, List.sum_nil, add_zero]
  | cons p l ih =>
    rw [List.foldl_cons, ih]
    simp only [List.map_cons, List.sum_cons]
    by_cases h0 : c p
    · simp only [h0, true_or, if_true, add_assoc]
    · by_cases h1 : c1 p <;> by_cases h2 : c2 p <;>
        simp only [h0, h1, h2, if_true, if_false, or_true, or_false, add_assoc, zero_add]

section threshold
/- count data read through a threshold `0 ≤ θ < 1`: a stored value is `≥ 1`, an absent one is `0`,
   so `θ < ·` tells them apart. -/
variable {θ : K} (hθ0 : ¬ θ < 0) (hθ1 : θ < 1) {n : Nat}
include hθ0 hθ1

/-- `m k` stands for a product with `get z k`, which vanishes with it. -/
theorem sumL_vals_guard (S : K → K) {z : SVec K} (Z : Row n z) (hz : ∀ p ∈ z, 1 ≤ p.2)
    (m : Nat → K) (hm : ∀ k, get z k = 0 → m k = 0) :
    sumL ((vals z).map S)
      = sumL ((List.range n).map fun k => if θ < m k ∨ θ < get z k then S (get z k) else 0) := by
  refine sumL_vals_of Z _ _ (fun k => ?_)
  have := hm k
  rw [get_eq_look z] at this ⊢
  cases h : look z k with
  | none => rw [h] at this; simp [this rfl, hθ0]
  | some a => simp [lt_of_lt_of_le hθ1 (hz _ (look_some_mem _ _ _ h))]

theorem sumL_merge_guard (B : K → K → K) {x y : SVec K} (X : Row n x) (Y : Row n y)
    (hx1 : ∀ p ∈ x, 1 ≤ p.2) (hy1 : ∀ p ∈ y, 1 ≤ p.2) :
    sumL ((merge (fun a b => if isZ (a * b) then none else some (B a b))
        (fun _ => none) (fun _ => none) x y).map (·.2))
      = sumL ((List.range n).map fun k =>
          if θ < get x k * get y k then B (get x k) (get y k) else 0) := by
  rw [← List.map_id (List.map _ _)]
  refine sumL_vals_of (X.merge Y _ _ _) id _ (fun k => ?_)
  rw [look_merge _ _ _ x y X.1 Y.1, get_eq_look x, get_eq_look y]
  cases h1 : look x k with
  | none => cases look y k <;> simp [hθ0]
  | some a =>
    cases h2 : look y k with
    | none => simp [hθ0]
    | some b =>
      have hab : 1 ≤ a * b :=
        one_le_mul_of_one_le_of_one_le (hx1 _ (look_some_mem _ _ _ h1)) (hy1 _ (look_some_mem _ _ _ h2))
      simp [lt_of_lt_of_le hθ1 hab, isZ_iff, ne_of_gt (lt_of_lt_of_le one_pos hab)]

end threshold

theorem sLlDirichlet_eq (T : Transc K) (pi big : K)
    (n : Nat) (x y : SVec K) (hx : Sorted x) (hy : Sorted y)
    (hxn : ∀ p ∈ x, p.1 < n) (hyn : ∀ p ∈ y, p.1 < n)
    (hx1 : ∀ p ∈ x, 1 ≤ p.2) (hy1 : ∀ p ∈ y, 1 ≤ p.2) :
    sLlDirichlet T pi big x y = Metrics.llDirichlet T pi big (toDense n x) (toDense n y) := by
  have X : Row n x := ⟨hx, hxn⟩
  have Y : Row n y := ⟨hy, hyn⟩
  have hθ0 : ¬ ((9 : Nat) : K) / ((10 : Nat) : K) < 0 := by norm_num
  have hθ1 : ((9 : Nat) : K) / ((10 : Nat) : K) < 1 := by norm_num
  unfold sLlDirichlet Metrics.llDirichlet
  dsimp only
  rw [sum_toDense X, sum_toDense Y, foldl_three_sums, zip_toDense]
  simp only [List.map_map, Function.comp_def, zero_add, ← sumL_eq_sum]
  rw [sumL_merge_guard hθ0 hθ1 _ X Y hx1 hy1,
    sumL_vals_guard hθ0 hθ1 _ X hx1 (fun k => get x k * get y k) (fun k h => by rw [h, zero_mul]),
    sumL_vals_guard hθ0 hθ1 _ Y hy1 (fun k => get x k * get y k) (fun k h => by rw [h, mul_zero])]
  rfl

end field

/-- the real instance satisfies the `sqrt` / `pow` hypotheses used above. -/
theorem realT_sqrt_props :
    (∀ a : ℝ, 0 ≤ a → (realT.sqrt a = 0 ↔ a = 0))
    ∧ (∀ a b : ℝ, 0 ≤ a → 0 ≤ b → realT.sqrt a * realT.sqrt b = realT.sqrt (a * b))
    ∧ realT.sqrt 0 = 0
    ∧ (∀ a : ℝ, 0 < a → 0 < realT.sqrt a)
    ∧ (∀ p : ℝ, p ≠ 0 → realT.pow 0 p = 0) :=
  ⟨fun _ ha => Real.sqrt_eq_zero ha, fun _ b ha _ => (Real.sqrt_mul ha b).symm, Real.sqrt_zero,
    fun _ ha => Real.sqrt_pos.2 ha,
    fun _ hp => Real.zero_rpow hp⟩

section real
variable (n : Nat) (x y : SVec ℝ) (hx : Sorted x) (hy : Sorted y)
  (hxn : ∀ p ∈ x, p.1 < n) (hyn : ∀ p ∈ y, p.1 < n)
include hx hy hxn hyn

theorem sMinkowski_real (p : ℝ) (hp : p ≠ 0) :
    sMinkowski realT p x y = Metrics.minkowski realT p (toDense n x) (toDense n y) :=
  sMinkowski_eq realT p (realT_sqrt_props.2.2.2.2 p hp) n x y hx hy hxn hyn

theorem sCosine_real :
    sCosine realT x y = Metrics.cosine realT (toDense n x) (toDense n y) :=
  sCosine_eq realT realT_sqrt_props.1 realT_sqrt_props.2.1 n x y hx hy hxn hyn

theorem sCorrelation_real :
    sCorrelation realT n x y = Metrics.correlation realT (toDense n x) (toDense n y) :=
  sCorrelation_eq realT realT_sqrt_props.1 realT_sqrt_props.2.1 n x y hx hy hxn hyn

theorem sHellinger_real (hxp : ∀ p ∈ x, 0 ≤ p.2) (hyp : ∀ p ∈ y, 0 ≤ p.2) :
    sHellinger realT x y = Metrics.hellinger realT (toDense n x) (toDense n y) :=
  sHellinger_eq realT realT_sqrt_props.2.2.1 realT_sqrt_props.2.2.2.1
    n x y hx hy hxn hyn hxp hyp

end real

/-! ### non-vacuity: concrete canonical rows over ℚ -/

def exX : SVec ℚ := [(0, 1), (2, 3)]
def exY : SVec ℚ := [(1, 5), (2, -3)]

example : Sorted exX ∧ Sorted exY := by decide +kernel
example : (∀ p ∈ exX, p.1 < 3) ∧ (∀ p ∈ exY, p.1 < 3) := by decide +kernel
example : (∀ p ∈ exX, p.2 ≠ 0) ∧ (∀ p ∈ exY, p.2 ≠ 0) := by decide +kernel
example : Canonical exX ∧ Canonical exY := by unfold Canonical; decide +kernel
/-- the `2`-entries cancel and are dropped by the sum, the product keeps only the common index. -/
example : sparseSum exX exY = [(0, 1), (1, 5)] := by decide +kernel
example : sparseDiff exX exY = [(0, 1), (1, -5), (2, 6)] := by decide +kernel
example : sparseMul exX exY = [(2, -9)] := by decide +kernel
example : toDense 3 exX = [1, 0, 3] ∧ toDense 3 exY = [0, 5, -3] := by decide +kernel
example : toDense 3 (sparseSum exX exY) = [1, 5, 0] := by decide +kernel
example : interSize exX exY = 1 ∧ unionSize exX exY = 3 := by decide +kernel
example : sManhattan exX exY = 12 ∧ Metrics.manhattan (toDense 3 exX) (toDense 3 exY) = 12 := by
  decide +kernel
example : sChebyshev exX exY = 6 := by decide +kernel
example : sCounts 3 exX exY = { n := 3, tt := 1, tf := 1, ft := 1 }
    ∧ Metrics.counts (toDense 3 exX) (toDense 3 exY) = { n := 3, tt := 1, tf := 1, ft := 1 } := by
  decide +kernel
example : sJaccard exX exY = (2 / 3 : ℚ) := by decide +kernel
example : sHamming 3 exX exY = (1 : ℚ) := by decide +kernel
/-- sortedness is needed for the pointwise semantics: an unsorted row is mis-merged. -/
example : get (sparseSum [(2, (1:ℚ)), (1, 1)] [(1, 1)]) 1 = 1
    ∧ get [(2, (1:ℚ)), (1, 1)] 1 + get [(1, (1:ℚ))] 1 = 2 := by decide +kernel

/-- the "no stored zero" half of `Canonical` is needed for the binary family: a stored zero is
    counted by the sparse code but not by the dense one. -/
example : sCounts 1 [(0, (0:ℚ))] [] = { n := 1, tt := 0, tf := 1, ft := 0 }
    ∧ Metrics.counts (toDense 1 [(0, (0:ℚ))]) (toDense 1 ([] : SVec ℚ))
        = { n := 1, tt := 0, tf := 0, ft := 0 } := by decide +kernel

/-- count data for `ll_dirichlet`: all stored values `≥ 1`. -/
def exZ : SVec ℚ := [(1, 5), (2, 2)]
example : Sorted exZ ∧ (∀ p ∈ exZ, p.1 < 3) ∧ (∀ p ∈ exX, 1 ≤ p.2) ∧ (∀ p ∈ exZ, 1 ≤ p.2) := by
  decide +kernel

/-! real rows satisfying every hypothesis of the `…_real` theorems, and the theorems applied. -/

noncomputable def exR : SVec ℝ := [(0, 1), (2, 3)]
noncomputable def exS : SVec ℝ := [(1, 5), (2, 2)]

theorem exR_ok : Sorted exR ∧ (∀ p ∈ exR, p.1 < 3) ∧ (∀ p ∈ exR, 0 ≤ p.2) ∧ (∀ p ∈ exR, 1 ≤ p.2) := by
  simp only [exR, Sorted, List.map_cons, List.map_nil, List.pairwise_cons, List.mem_cons,
    List.not_mem_nil, forall_eq_or_imp, or_false, forall_eq, IsEmpty.forall_iff, implies_true,
    List.Pairwise.nil, and_true]
  norm_num
theorem exS_ok : Sorted exS ∧ (∀ p ∈ exS, p.1 < 3) ∧ (∀ p ∈ exS, 0 ≤ p.2) ∧ (∀ p ∈ exS, 1 ≤ p.2) := by
  simp only [exS, Sorted, List.map_cons, List.map_nil, List.pairwise_cons, List.mem_cons,
    List.not_mem_nil, forall_eq_or_imp, or_false, forall_eq, IsEmpty.forall_iff, implies_true,
    List.Pairwise.nil, and_true]
  norm_num

example : sCosine realT exR exS = Metrics.cosine realT (toDense 3 exR) (toDense 3 exS) :=
  sCosine_real 3 exR exS exR_ok.1 exS_ok.1 exR_ok.2.1 exS_ok.2.1
example : sCorrelation realT 3 exR exS
    = Metrics.correlation realT (toDense 3 exR) (toDense 3 exS) :=
  sCorrelation_real 3 exR exS exR_ok.1 exS_ok.1 exR_ok.2.1 exS_ok.2.1
example : sHellinger realT exR exS = Metrics.hellinger realT (toDense 3 exR) (toDense 3 exS) :=
  sHellinger_real 3 exR exS exR_ok.1 exS_ok.1 exR_ok.2.1 exS_ok.2.1 exR_ok.2.2.1 exS_ok.2.2.1
example : sMinkowski realT 3 exR exS
    = Metrics.minkowski realT 3 (toDense 3 exR) (toDense 3 exS) :=
  sMinkowski_real 3 exR exS exR_ok.1 exS_ok.1 exR_ok.2.1 exS_ok.2.1 3 (by norm_num)
example (pi big : ℝ) : sLlDirichlet realT pi big exR exS
    = Metrics.llDirichlet realT pi big (toDense 3 exR) (toDense 3 exS) :=
  sLlDirichlet_eq realT pi big 3 exR exS exR_ok.1 exS_ok.1 exR_ok.2.1 exS_ok.2.1
    exR_ok.2.2.2 exS_ok.2.2.2

end C13
end Umap
