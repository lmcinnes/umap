/-
  C13Src — property C13 (sparse metric = dense metric on the densified rows) at the level of the
  translated SOURCE of umap/sparse.py and umap/distances.py.

  (a) `…_of_le_tied` : the three theorems of `C13SrcB` that state the exact arithmetic condition under which the
      source's Python ints and the model's naturals agree, with `H := C13SrcCore.coreSpec` supplied.
      (The other theorems of `C13SrcA` / `C13SrcB` that are relative to a `CoreSpec` are used below as
      `…_src (coreSpecK K)`.)

  (b) `<metric>_sparse_eq_dense_src` : over an ordered field `K`, for canonical CSR rows
      (`Canon ind data`: as many values as indices, strictly increasing indices) whose indices are `< n`,

        SrcSparse.sparse<Metric> … ind1 data1 ind2 data2 …
          = Src.<metric> … (toDense n (pack ind1 data1)) (toDense n (pack ind2 data2)) …

      obtained by chaining (`sparse_eq_dense_src_of`, which takes the two ties first and the model theorem last)
        src  translated sparse kernel = model sparse kernel          (C13SrcA/B + C13SrcCore)
        C13  model sparse kernel = model dense kernel on `toDense`     (C13.sX_eq)
        C12  translated dense kernel = model dense kernel, read ←      (C12SrcA/B/C, lengths equal `n`).

  Hypothesis names:
    hc1 hc2        : `Canon ind data`
    h_n1 h_n2      : all column indices `< n`  (`n` = `n_features`)
    h_nz1 h_nz2    : no stored zero            (binary family: C13 needs `Canonical`)
    h_nonneg1/2    : stored values `≥ 0`       (hellinger)
    h_ge1_1/2      : stored values `≥ 1`       (ll_dirichlet)
    h_sqrt…, h_pow : named facts about the abstract `T.sqrt` / `T.pow`.
-/
import UmapModel.Sparse
import UmapModel.Metrics
import Generated.SparseSrc
import Generated.DistSrc
import UmapProps.C12SrcA
import UmapProps.C12SrcB
import UmapProps.C13SrcCore
import UmapProps.C13SrcB

namespace Umap
namespace C13Src
open Sparse SparseSrcSpec

/-- `coreSpec` at an ordered field, stated once because finding its thirteen scalar instances from `Field K`
    is slow.  `K` is explicit: `…_src (coreSpecK K)` then fixes the scalar type of the generic `…_src` theorem
    before its own instance arguments are looked for, instead of after a first round in which all of them are stuck. -/
theorem coreSpecK (K : Type) [Field K] [LinearOrder K] : CoreSpec K := C13SrcCore.coreSpec

section tiedField
variable {K : Type} [Field K] [LinearOrder K] [IsStrictOrderedRing K]

/-- exact arithmetic condition (see `C13SrcB.sparseKulsinski_src_of_le`) -/
theorem sparseKulsinski_of_le_tied (ind1 ind2 : List Nat) (data1 data2 : List K)
    (n : Nat) (hc1 : Canon ind1 data1) (hc2 : Canon ind2 data2)
    (h_nfeatures : 2 * interSize (pack ind1 data1) (pack ind2 data2)
        ≤ unionSize (pack ind1 data1) (pack ind2 data2) + n) :
    SrcSparse.sparseKulsinski ind1 data1 ind2 data2 n
      = Sparse.sKulsinski n (pack ind1 data1) (pack ind2 data2) :=
  C13SrcB.sparseKulsinski_src_of_le (coreSpecK K) ind1 ind2 data1 data2 n hc1 hc2 h_nfeatures

/-- exact arithmetic condition (see `C13SrcB.sparseRussellrao_src_of_le`) -/
theorem sparseRussellrao_of_le_tied (ind1 ind2 : List Nat) (data1 data2 : List K)
    (n : Nat) (hc1 : Canon ind1 data1) (hc2 : Canon ind2 data2)
    (h_nfeatures : interSize (pack ind1 data1) (pack ind2 data2) ≤ n) :
    SrcSparse.sparseRussellrao ind1 data1 ind2 data2 n
      = Sparse.sRussellRao n (pack ind1 data1) (pack ind2 data2) :=
  C13SrcB.sparseRussellrao_src_of_le (coreSpecK K) ind1 ind2 data1 data2 n hc1 hc2 h_nfeatures

/-- exact arithmetic conditions (see `C13SrcB.sparseCorrelation_src_of_le`) -/
theorem sparseCorrelation_of_le_tied (T : Transc K)
    (h_sqrt : ∀ a : K, 0 ≤ a → T.sqrt a * T.sqrt a = a)
    (ind1 ind2 : List Nat) (data1 data2 : List K)
    (n : Nat) (hc1 : Canon ind1 data1) (hc2 : Canon ind2 data2)
    (h_n1 : ind1.length ≤ n) (h_n2 : ind2.length ≤ n)
    (h_nU : unionSize (pack ind1 data1) (pack ind2 data2) ≤ n) :
    SrcSparse.sparseCorrelation T ind1 data1 ind2 data2 n
      = Sparse.sCorrelation T n (pack ind1 data1) (pack ind2 data2) :=
  C13SrcB.sparseCorrelation_src_of_le (coreSpecK K) T h_sqrt ind1 ind2 data1 data2 n hc1 hc2
    h_n1 h_n2 h_nU

end tiedField

section chain
variable {K : Type} [Field K]

theorem canonical_pack {ind : List Nat} {data : List K} (hc : Canon ind data)
    (h_nz : ∀ v ∈ data, v ≠ 0) : C13.Canonical (pack ind data) :=
  ⟨sorted_pack hc, vals_pack_forall h_nz⟩

/-- The chain every theorem below is an instance of: translated sparse kernel `S` = sparse model `M`
    = dense model `D` on the densified rows = translated dense kernel `D'`.  `P` is what the middle step
    asks of a row besides the index bound (`C13.Sorted`, `C13.Canonical`, … and a sign condition).
    The dense tie comes before the model theorem: under its binders `x y` both sides are patterns, so it
    fixes `D` and `D'`; `D (toDense n x) (toDense n y)` in `h_model` does not determine `D`, and with the
    model theorem first the count family (`…C (counts … …)`) is elaborated twice over. -/
theorem sparse_eq_dense_src_of {β : Type} {ind1 ind2 : List Nat} {data1 data2 : List K} {n : Nat}
    {P : SVec K → Prop} {S : β} {M : SVec K → SVec K → β} {D D' : List K → List K → β}
    (hP1 : P (pack ind1 data1)) (hP2 : P (pack ind2 data2))
    (hc1 : Canon ind1 data1) (hc2 : Canon ind2 data2)
    (h_n1 : ∀ k ∈ ind1, k < n) (h_n2 : ∀ k ∈ ind2, k < n)
    (h_src : S = M (pack ind1 data1) (pack ind2 data2))
    (h_dense : ∀ x y : List K, x.length = y.length → D' x y = D x y)
    (h_model : ∀ x y, P x → P y → (∀ p ∈ x, p.1 < n) → (∀ p ∈ y, p.1 < n) →
      M x y = D (toDense n x) (toDense n y)) :
    S = D' (toDense n (pack ind1 data1)) (toDense n (pack ind2 data2)) :=
  (h_src.trans (h_model _ _ hP1 hP2 (mem_pack_bound n hc1.1 h_n1) (mem_pack_bound n hc2.1 h_n2))).trans
    -- both densified rows are maps over `List.range n`
    (h_dense _ _ ((List.length_map _).trans (List.length_map _).symm)).symm

end chain

section e2e
variable {K : Type} [Field K] [LinearOrder K] [IsStrictOrderedRing K]

variable (ind1 ind2 : List Nat) (data1 data2 : List K) (n : Nat)
  (hc1 : Canon ind1 data1) (hc2 : Canon ind2 data2)
  (h_n1 : ∀ k ∈ ind1, k < n) (h_n2 : ∀ k ∈ ind2, k < n)

/-! ### real-valued metrics: sortedness and the index bound suffice -/

include hc1 hc2 h_n1 h_n2 in
theorem euclidean_sparse_eq_dense_src (T : Transc K) :
    SrcSparse.sparseEuclidean T ind1 data1 ind2 data2
      = Src.euclidean T (toDense n (pack ind1 data1)) (toDense n (pack ind2 data2)) :=
  sparse_eq_dense_src_of (sorted_pack hc1) (sorted_pack hc2) hc1 hc2 h_n1 h_n2
    (C13SrcA.sparseEuclidean_src (coreSpecK K) T _ _ _ _ hc1 hc2) (C12SrcA.euclidean_src T) (C13.sEuclidean_eq T n)

include hc1 hc2 h_n1 h_n2 in
theorem manhattan_sparse_eq_dense_src :
    SrcSparse.sparseManhattan ind1 data1 ind2 data2
      = Src.manhattan (toDense n (pack ind1 data1)) (toDense n (pack ind2 data2)) :=
  sparse_eq_dense_src_of (sorted_pack hc1) (sorted_pack hc2) hc1 hc2 h_n1 h_n2
    (C13SrcA.sparseManhattan_src (coreSpecK K) _ _ _ _ hc1 hc2) C12SrcA.manhattan_src (C13.sManhattan_eq n)

include hc1 hc2 h_n1 h_n2 in
theorem chebyshev_sparse_eq_dense_src :
    SrcSparse.sparseChebyshev ind1 data1 ind2 data2
      = Src.chebyshev (toDense n (pack ind1 data1)) (toDense n (pack ind2 data2)) :=
  sparse_eq_dense_src_of (sorted_pack hc1) (sorted_pack hc2) hc1 hc2 h_n1 h_n2
    (C13SrcA.sparseChebyshev_src (coreSpecK K) _ _ _ _ hc1 hc2) C12SrcA.chebyshev_src (C13.sChebyshev_eq n)

include hc1 hc2 h_n1 h_n2 in
/-- `h_pow`: the power function sends `0` to `0` at exponent `p` (true of `Real.rpow` for `p ≠ 0`). -/
theorem minkowski_sparse_eq_dense_src (T : Transc K) (p : K) (h_pow : T.pow 0 p = 0) :
    SrcSparse.sparseMinkowski T ind1 data1 ind2 data2 p
      = Src.minkowski T (toDense n (pack ind1 data1)) (toDense n (pack ind2 data2)) p :=
  sparse_eq_dense_src_of (D' := fun x y => Src.minkowski T x y p) (sorted_pack hc1) (sorted_pack hc2) hc1 hc2 h_n1 h_n2
    (C13SrcA.sparseMinkowski_src (coreSpecK K) T _ _ _ _ p hc1 hc2) (C12SrcA.minkowski_src T p) (C13.sMinkowski_eq T p h_pow n)

include hc1 hc2 h_n1 h_n2 in
/-- the sparse kernel's `n_features` argument is the densification length `n` -/
theorem hamming_sparse_eq_dense_src :
    SrcSparse.sparseHamming ind1 data1 ind2 data2 n
      = Src.hamming (toDense n (pack ind1 data1)) (toDense n (pack ind2 data2)) :=
  sparse_eq_dense_src_of (sorted_pack hc1) (sorted_pack hc2) hc1 hc2 h_n1 h_n2
    (C13SrcA.sparseHamming_src (coreSpecK K) _ _ _ _ n hc1 hc2) C12SrcA.hamming_src (C13.sHamming_eq n)

include hc1 hc2 h_n1 h_n2 in
theorem canberra_sparse_eq_dense_src :
    SrcSparse.sparseCanberra ind1 data1 ind2 data2
      = Src.canberra (toDense n (pack ind1 data1)) (toDense n (pack ind2 data2)) :=
  sparse_eq_dense_src_of (sorted_pack hc1) (sorted_pack hc2) hc1 hc2 h_n1 h_n2
    (C13SrcA.sparseCanberra_src (coreSpecK K) _ _ _ _ hc1 hc2) C12SrcA.canberra_src (C13.sCanberra_eq n)

include hc1 hc2 h_n1 h_n2 in
theorem braycurtis_sparse_eq_dense_src :
    SrcSparse.sparseBrayCurtis ind1 data1 ind2 data2
      = Src.brayCurtis (toDense n (pack ind1 data1)) (toDense n (pack ind2 data2)) :=
  sparse_eq_dense_src_of (sorted_pack hc1) (sorted_pack hc2) hc1 hc2 h_n1 h_n2
    (C13SrcA.sparseBrayCurtis_src (coreSpecK K) _ _ _ _ hc1 hc2) C12SrcA.brayCurtis_src (C13.sBrayCurtis_eq n)

include hc1 hc2 h_n1 h_n2 in
/-- `h_sqrt0`, `h_sqrt_mul`: the square root vanishes only at `0` and is multiplicative on `[0, ∞)`. -/
theorem cosine_sparse_eq_dense_src (T : Transc K)
    (h_sqrt0 : ∀ a, 0 ≤ a → (T.sqrt a = 0 ↔ a = 0))
    (h_sqrt_mul : ∀ a b, 0 ≤ a → 0 ≤ b → T.sqrt a * T.sqrt b = T.sqrt (a * b)) :
    SrcSparse.sparseCosine T ind1 data1 ind2 data2
      = Src.cosine T (toDense n (pack ind1 data1)) (toDense n (pack ind2 data2)) :=
  sparse_eq_dense_src_of (sorted_pack hc1) (sorted_pack hc2) hc1 hc2 h_n1 h_n2
    (C13SrcA.sparseCosine_src (coreSpecK K) T _ _ _ _ hc1 hc2) (C12SrcA.cosine_src T) (C13.sCosine_eq T h_sqrt0 h_sqrt_mul n)

include hc1 hc2 h_n1 h_n2 in
/-- `h_nonneg1/2`: the stored values are non-negative (hellinger is a distance between
    non-negative vectors); `h_sqrt_zero`, `h_sqrt_pos`: `sqrt 0 = 0`, `sqrt` positive on `(0, ∞)`. -/
theorem hellinger_sparse_eq_dense_src (T : Transc K)
    (h_sqrt_zero : T.sqrt 0 = 0) (h_sqrt_pos : ∀ a, 0 < a → 0 < T.sqrt a)
    (h_nonneg1 : ∀ v ∈ data1, 0 ≤ v) (h_nonneg2 : ∀ v ∈ data2, 0 ≤ v) :
    SrcSparse.sparseHellinger T ind1 data1 ind2 data2
      = Src.hellinger T (toDense n (pack ind1 data1)) (toDense n (pack ind2 data2)) :=
  sparse_eq_dense_src_of (P := fun x => C13.Sorted x ∧ ∀ p ∈ x, 0 ≤ p.2)
    ⟨sorted_pack hc1, vals_pack_forall h_nonneg1⟩
    ⟨sorted_pack hc2, vals_pack_forall h_nonneg2⟩ hc1 hc2 h_n1 h_n2
    (C13SrcA.sparseHellinger_src (coreSpecK K) T _ _ _ _ hc1 hc2)
    (C12SrcA.hellinger_src T)
    (fun x y hx hy bx bY => C13.sHellinger_eq T h_sqrt_zero h_sqrt_pos n x y hx.1 hy.1 bx bY hx.2 hy.2)

include hc1 hc2 h_n1 h_n2 in
/-- `h_sqrt_sq` (needed by the source→model step: the source squares a square root),
    `h_sqrt0`, `h_sqrt_mul` (needed by the model sparse→dense step). -/
theorem correlation_sparse_eq_dense_src (T : Transc K)
    (h_sqrt_sq : ∀ a : K, 0 ≤ a → T.sqrt a * T.sqrt a = a)
    (h_sqrt0 : ∀ a, 0 ≤ a → (T.sqrt a = 0 ↔ a = 0))
    (h_sqrt_mul : ∀ a b, 0 ≤ a → 0 ≤ b → T.sqrt a * T.sqrt b = T.sqrt (a * b)) :
    SrcSparse.sparseCorrelation T ind1 data1 ind2 data2 n
      = Src.correlation T (toDense n (pack ind1 data1)) (toDense n (pack ind2 data2)) :=
  sparse_eq_dense_src_of (sorted_pack hc1) (sorted_pack hc2) hc1 hc2 h_n1 h_n2
    (C13SrcB.sparseCorrelation_src (coreSpecK K) T h_sqrt_sq _ _ _ _ n hc1 hc2 h_n1 h_n2)
    (C12SrcA.correlation_src T) (C13.sCorrelation_eq T h_sqrt0 h_sqrt_mul n)

include hc1 hc2 h_n1 h_n2 in
/-- `h_ge1_1/2`: the stored values are `≥ 1` (counts); both sides then use the same cut-off constant
    `10^8` (`C12SrcC.llDirichlet_src`, `C13SrcB.sparseLlDirichlet_src`). -/
theorem ll_dirichlet_sparse_eq_dense_src (T : Transc K) (pi : K)
    (h_ge1_1 : ∀ v ∈ data1, 1 ≤ v) (h_ge1_2 : ∀ v ∈ data2, 1 ≤ v) :
    SrcSparse.sparseLlDirichlet T pi ind1 data1 ind2 data2
      = Src.llDirichlet T pi (toDense n (pack ind1 data1)) (toDense n (pack ind2 data2)) :=
  sparse_eq_dense_src_of (P := fun x => C13.Sorted x ∧ ∀ p ∈ x, 1 ≤ p.2)
    ⟨sorted_pack hc1, vals_pack_forall h_ge1_1⟩
    ⟨sorted_pack hc2, vals_pack_forall h_ge1_2⟩ hc1 hc2 h_n1 h_n2
    (C13SrcB.sparseLlDirichlet_src T pi _ _ _ _ hc1 hc2)
    (C12SrcC.llDirichlet_src T pi)
    (fun x y hx hy bx bY => C13.sLlDirichlet_eq T pi _ n x y hx.1 hy.1 bx bY hx.2 hy.2)

/-! ### the binary / count family: additionally no stored zero (`C13.Canonical`) -/

variable (h_nz1 : ∀ v ∈ data1, v ≠ 0) (h_nz2 : ∀ v ∈ data2, v ≠ 0)

include hc1 hc2 h_n1 h_n2 h_nz1 h_nz2 in
theorem jaccard_sparse_eq_dense_src :
    SrcSparse.sparseJaccard ind1 data1 ind2 data2
      = Src.jaccard (toDense n (pack ind1 data1)) (toDense n (pack ind2 data2)) :=
  sparse_eq_dense_src_of (canonical_pack hc1 h_nz1) (canonical_pack hc2 h_nz2) hc1 hc2 h_n1 h_n2
    (C13SrcB.sparseJaccard_src (coreSpecK K) _ _ _ _ hc1 hc2) C12SrcB.jaccard_src (C13.sJaccard_eq n)

include hc1 hc2 h_n1 h_n2 h_nz1 h_nz2 in
theorem matching_sparse_eq_dense_src :
    SrcSparse.sparseMatching ind1 data1 ind2 data2 n
      = Src.matching (toDense n (pack ind1 data1)) (toDense n (pack ind2 data2)) :=
  sparse_eq_dense_src_of (canonical_pack hc1 h_nz1) (canonical_pack hc2 h_nz2) hc1 hc2 h_n1 h_n2
    (C13SrcB.sparseMatching_src (coreSpecK K) _ _ _ _ n hc1 hc2) C12SrcB.matching_src (C13.sMatching_eq n)

include hc1 hc2 h_n1 h_n2 h_nz1 h_nz2 in
theorem dice_sparse_eq_dense_src :
    SrcSparse.sparseDice ind1 data1 ind2 data2
      = Src.dice (toDense n (pack ind1 data1)) (toDense n (pack ind2 data2)) :=
  sparse_eq_dense_src_of (canonical_pack hc1 h_nz1) (canonical_pack hc2 h_nz2) hc1 hc2 h_n1 h_n2
    (C13SrcB.sparseDice_src (coreSpecK K) _ _ _ _ hc1 hc2) C12SrcB.dice_src (C13.sDice_eq n)

include hc1 hc2 h_n1 h_n2 h_nz1 h_nz2 in
theorem kulsinski_sparse_eq_dense_src :
    SrcSparse.sparseKulsinski ind1 data1 ind2 data2 n
      = Src.kulsinski (toDense n (pack ind1 data1)) (toDense n (pack ind2 data2)) :=
  sparse_eq_dense_src_of (canonical_pack hc1 h_nz1) (canonical_pack hc2 h_nz2) hc1 hc2 h_n1 h_n2
    (C13SrcB.sparseKulsinski_src (coreSpecK K) _ _ _ _ n hc1 hc2 h_n1) C12SrcB.kulsinski_src (C13.sKulsinski_eq n)

include hc1 hc2 h_n1 h_n2 h_nz1 h_nz2 in
theorem rogerstanimoto_sparse_eq_dense_src :
    SrcSparse.sparseRogersTanimoto ind1 data1 ind2 data2 n
      = Src.rogersTanimoto (toDense n (pack ind1 data1)) (toDense n (pack ind2 data2)) :=
  sparse_eq_dense_src_of (canonical_pack hc1 h_nz1) (canonical_pack hc2 h_nz2) hc1 hc2 h_n1 h_n2
    (C13SrcB.sparseRogersTanimoto_src (coreSpecK K) _ _ _ _ n hc1 hc2) C12SrcB.rogersTanimoto_src (C13.sRogersTanimoto_eq n)

include hc1 hc2 h_n1 h_n2 h_nz1 h_nz2 in
theorem sokalmichener_sparse_eq_dense_src :
    SrcSparse.sparseSokalMichener ind1 data1 ind2 data2 n
      = Src.sokalMichener (toDense n (pack ind1 data1)) (toDense n (pack ind2 data2)) :=
  sparse_eq_dense_src_of (canonical_pack hc1 h_nz1) (canonical_pack hc2 h_nz2) hc1 hc2 h_n1 h_n2
    (C13SrcB.sparseSokalMichener_src (coreSpecK K) _ _ _ _ n hc1 hc2) C12SrcB.sokalMichener_src (C13.sSokalMichener_eq n)

include hc1 hc2 h_n1 h_n2 h_nz1 h_nz2 in
theorem sokalsneath_sparse_eq_dense_src :
    SrcSparse.sparseSokalSneath ind1 data1 ind2 data2
      = Src.sokalSneath (toDense n (pack ind1 data1)) (toDense n (pack ind2 data2)) :=
  sparse_eq_dense_src_of (canonical_pack hc1 h_nz1) (canonical_pack hc2 h_nz2) hc1 hc2 h_n1 h_n2
    (C13SrcB.sparseSokalSneath_src (coreSpecK K) _ _ _ _ hc1 hc2) C12SrcB.sokalSneath_src (C13.sSokalSneath_eq n)

include hc1 hc2 h_n1 h_n2 h_nz1 h_nz2 in
theorem russellrao_sparse_eq_dense_src :
    SrcSparse.sparseRussellrao ind1 data1 ind2 data2 n
      = Src.russellrao (toDense n (pack ind1 data1)) (toDense n (pack ind2 data2)) :=
  sparse_eq_dense_src_of (canonical_pack hc1 h_nz1) (canonical_pack hc2 h_nz2) hc1 hc2 h_n1 h_n2
    (C13SrcB.sparseRussellrao_src (coreSpecK K) _ _ _ _ n hc1 hc2 h_n1) C12SrcB.russellrao_src (C13.sRussellRao_eq n)

end e2e

end C13Src
end Umap
