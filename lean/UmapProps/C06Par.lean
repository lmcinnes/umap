/-
  C06 (continued) — when is an edge-parallel SGD epoch independent of the schedule?

  `numba.prange` over EDGES (umap/layouts.py `_optimize_layout_euclidean_single_epoch`): iteration
  `i` reads and writes the cell of vertex `head i` (embedding row + RNG state), and with
  `move_other = True` also the cell of `tail i`.  Model: `UmapModel/ParSgd.lean`.

  Proved here:
  * (1, 2) the `move_other = False` epoch is the same for every order of its iterations as soon
    as the updates of edges that share a head commute — in particular when no two edges share a
    head; and the commutation condition is also necessary (`epoch_swap_iff`);
  * (3) two edges with the SAME head and non-commuting updates give different results in the two
    orders.  This is the situation of `transform` under the parallel kernel: every new point is
    the head of `n_neighbors` edges;
  * (4) the sequential kernel — the one every seeded model selects — ignores the schedule;
    the parallel one does not;
  * (5) with `move_other = True` distinct heads are not enough: two edges that share only a TAIL
    vertex already make the result order dependent; vertex-disjoint edges are enough.

  Note on (2): over ℤ, ℚ or ℝ pure accumulations `v ↦ v + δᵢ` commute; IEEE addition is not
  associative, so for `float32` rows even those do not commute bit for bit — the hypothesis of
  (2) is about the actual cell type `β`, whatever it is.
-/
import UmapModel.Par
import UmapModel.ParSgd
import UmapProofs.Basic

namespace Umap
namespace C06
open Par ParSgd

/-! ### `move_other = False`: one cell per iteration -/

theorem edgeStep_head {β : Type} (f : Nat → β → β) (head : Nat → Nat) (cells : Nat → β) (i : Nat) :
    edgeStep f head cells i (head i) = f i (cells (head i)) := if_pos rfl

theorem edgeStep_of_ne {β : Type} (f : Nat → β → β) (head : Nat → Nat) (cells : Nat → β)
    {i c : Nat} (h : c ≠ head i) : edgeStep f head cells i c = cells c := if_neg h

theorem edgeStep_eq_update {β : Type} (f : Nat → β → β) (head : Nat → Nat) (cells : Nat → β)
    (i : Nat) : edgeStep f head cells i = Function.update cells (head i) (f i (cells (head i))) := by
  funext c
  simp only [edgeStep, Function.update_apply]

/-- two consecutive iterations may be swapped if they touch different cells or their updates
    commute. -/
theorem edgeStep_comm {β : Type} (f : Nat → β → β) (head : Nat → Nat) (cells : Nat → β)
    (x y : Nat) (h : head x = head y → f x ∘ f y = f y ∘ f x) :
    edgeStep f head (edgeStep f head cells x) y = edgeStep f head (edgeStep f head cells y) x := by
  simp only [edgeStep_eq_update]
  by_cases hxy : head x = head y
  · simp only [hxy, Function.update_self, Function.update_idem]
    exact congrArg _ (congrFun (h hxy) _).symm
  · rw [Function.update_of_ne hxy, Function.update_of_ne (Ne.symm hxy), Function.update_comm hxy]

/-- **(2) schedule independence under commuting updates**: if the updates of any two edges of the
    epoch that share a head commute, every permutation of the iterations gives the same state.
    (The hypothesis is only needed for the edges in `order`; no `Nodup` is needed.) -/
theorem epoch_perm_of_commuting {β : Type} (f : Nat → β → β) (head : Nat → Nat)
    (order order' : List Nat) (hp : order.Perm order')
    (hcomm : ∀ i ∈ order, ∀ j ∈ order, head i = head j → f i ∘ f j = f j ∘ f i)
    (cells : Nat → β) :
    epoch f head order' cells = epoch f head order cells := by
  unfold epoch
  symm
  apply List.Perm.foldl_eq' hp
  intro x hx y hy z
  exact edgeStep_comm f head z x y (hcomm x hx y hy)

/-- with commutation assumed for all pairs of edges, not only those of the epoch. -/
theorem epoch_perm_of_commuting' {β : Type} (f : Nat → β → β) (head : Nat → Nat)
    (order order' : List Nat) (hp : order.Perm order')
    (hcomm : ∀ i j, head i = head j → f i ∘ f j = f j ∘ f i) (cells : Nat → β) :
    epoch f head order' cells = epoch f head order cells :=
  epoch_perm_of_commuting f head order order' hp (fun i _ j _ => hcomm i j) cells

/-- **(1) schedule independence under distinct heads**: if every vertex is the head of at most
    one edge of the epoch, every permutation of the iterations gives the same state.
    (`order.Nodup` is part of the natural statement — `order` is a permutation of `range m` — but
    is not used by the proof: an edge commutes with itself.) -/
theorem epoch_perm_of_distinct_heads {β : Type} (f : Nat → β → β) (head : Nat → Nat)
    (order order' : List Nat) (hp : order.Perm order') (_hnd : order.Nodup)
    (hinj : ∀ i ∈ order, ∀ j ∈ order, head i = head j → i = j) (cells : Nat → β) :
    epoch f head order' cells = epoch f head order cells := by
  apply epoch_perm_of_commuting f head order order' hp _ cells
  intro i hi j hj hij
  rw [hinj i hi j hj hij]

/-- what the schedule-independent result is: the cell of `head i` holds `f i` of its old content,
    cells that are the head of no edge are untouched. -/
theorem epoch_spec_of_distinct_heads {β : Type} (f : Nat → β → β) (head : Nat → Nat)
    (order : List Nat) (hnd : order.Nodup)
    (hinj : ∀ i ∈ order, ∀ j ∈ order, head i = head j → i = j) (cells : Nat → β) :
    (∀ i ∈ order, epoch f head order cells (head i) = f i (cells (head i)))
    ∧ (∀ c, (∀ i ∈ order, head i ≠ c) → epoch f head order cells c = cells c) := by
  have frame : ∀ (l : List Nat) (cells : Nat → β) (c : Nat), (∀ i ∈ l, head i ≠ c) →
      epoch f head l cells c = cells c := fun l cells c hc =>
    foldl_proj_mem (fun t : Nat → β => t c) _ l
      (fun t i hi => edgeStep_of_ne f head t (hc i hi).symm) cells
  refine ⟨fun i hi => ?_, frame order cells⟩
  -- the order does not matter, so let `i` run first: no other edge of the epoch has its head
  rw [← epoch_perm_of_distinct_heads f head order _ (List.perm_cons_erase hi) hnd hinj cells]
  refine (frame (order.erase i) (edgeStep f head cells i) _ fun j hj e => ?_).trans
    (edgeStep_head f head cells i)
  exact (hnd.mem_erase_iff.1 hj).1 (hinj j (List.mem_of_mem_erase hj) i hi e)

/-- the commutation condition is exactly what is needed: two edges with the same head may be
    swapped on every state iff their updates commute. -/
theorem epoch_swap_iff {β : Type} (f : Nat → β → β) (head : Nat → Nat) (i j : Nat)
    (hij : head i = head j) :
    (∀ cells : Nat → β, epoch f head [i, j] cells = epoch f head [j, i] cells)
      ↔ f j ∘ f i = f i ∘ f j := by
  constructor
  · intro h
    funext v
    have := congrFun (h (fun _ => v)) (head j)
    simpa [epoch, edgeStep, hij] using this
  · exact fun h cells => edgeStep_comm f head cells i j fun _ => h.symm

/-- non-vacuity of (1): three edges with three different heads, updates that do not commute
    with one another (`+1`, `*2`, `-3` on ℤ) — hypotheses hold, and the conclusion is a
    non-trivial equality of two differently ordered runs. -/
example :
    let f : Nat → Int → Int := fun i v => if i = 0 then v + 1 else if i = 1 then v * 2 else v - 3
    let head : Nat → Nat := fun i => i + 4
    ([0, 1, 2] : List Nat).Perm [2, 0, 1] ∧ ([0, 1, 2] : List Nat).Nodup
    ∧ (∀ i ∈ [0, 1, 2], ∀ j ∈ [0, 1, 2], head i = head j → i = j)
    ∧ epoch f head [2, 0, 1] (fun c => (c : Int)) = epoch f head [0, 1, 2] (fun c => (c : Int))
    ∧ epoch f head [0, 1, 2] (fun c => (c : Int)) 5 = 10 := by
  intro f head
  have hp : ([0, 1, 2] : List Nat).Perm [2, 0, 1] := by decide
  have hnd : ([0, 1, 2] : List Nat).Nodup := by decide
  have hinj : ∀ i ∈ [0, 1, 2], ∀ j ∈ [0, 1, 2], head i = head j → i = j := by
    intro i _ j _ h; simpa [head] using h
  exact ⟨hp, hnd, hinj, epoch_perm_of_distinct_heads f head _ _ hp hnd hinj _, by decide⟩

/-- non-vacuity of (2): three edges that ALL share the head vertex 0, each adding its own
    increment (exact arithmetic): the updates commute, so the order is irrelevant although
    the heads are not distinct. -/
example :
    let f : Nat → Int → Int := fun i v => v + (i + 1)
    let head : Nat → Nat := fun _ => 0
    (∀ i j, head i = head j → f i ∘ f j = f j ∘ f i)
    ∧ ¬ (∀ i ∈ [0, 1, 2], ∀ j ∈ [0, 1, 2], head i = head j → i = j)
    ∧ epoch f head [2, 0, 1] (fun _ => 0) = epoch f head [0, 1, 2] (fun _ => 0)
    ∧ epoch f head [0, 1, 2] (fun _ => 0) 0 = 6 := by
  intro f head
  have hcomm : ∀ i j, head i = head j → f i ∘ f j = f j ∘ f i :=
    fun i j _ => funext fun v => add_right_comm v _ _
  refine ⟨hcomm, ?_, ?_, by decide⟩
  · intro h
    exact absurd (h 0 (by decide) 1 (by decide) rfl) (by decide)
  · exact epoch_perm_of_commuting' f head [0, 1, 2] [2, 0, 1] (by decide) hcomm _

/-- **(3) schedule dependence**: two edges with the SAME head (a new point of `transform` with two
    neighbours), updates `+1` and `*2`: the two orders leave different values in the head cell. -/
theorem epoch_schedule_dependent :
    epoch (fun i (v : Int) => if i = 0 then v + 1 else v * 2) (fun _ => 0) [0, 1] (fun _ => 1) 0
      ≠ epoch (fun i (v : Int) => if i = 0 then v + 1 else v * 2) (fun _ => 0) [1, 0] (fun _ => 1) 0 := by
  decide

/-! ### the kernel actually run -/

/-- **(4) the sequential kernel is deterministic**: whatever schedule the runtime would have
    picked, the kernel selected for a seeded model (`kernelChoice true = .sequential`,
    cf. `seeded_selects_sequential`) returns `epoch f head (range m) cells` — a function of the
    inputs alone. -/
theorem sequential_deterministic {β : Type} (sched sched' : List Nat) (m : Nat)
    (f : Nat → β → β) (head : Nat → Nat) (cells : Nat → β) :
    kernelChoice true = .sequential
    ∧ runEpoch (kernelChoice true) sched m f head cells
        = runEpoch (kernelChoice true) sched' m f head cells
    ∧ runEpoch (kernelChoice true) sched m f head cells = epoch f head (List.range m) cells := by
  refine ⟨rfl, rfl, rfl⟩

/-- the same for the `move_other = True` kernel (the one `fit` runs). -/
theorem sequential_deterministic2 {β : Type} (sched sched' : List Nat) (m : Nat)
    (g : Nat → β → β → β × β) (head tail : Nat → Nat) (cells : Nat → β) :
    runEpoch2 (kernelChoice true) sched m g head tail cells
        = runEpoch2 (kernelChoice true) sched' m g head tail cells
    ∧ runEpoch2 (kernelChoice true) sched m g head tail cells
        = epoch2 g head tail (List.range m) cells := by
  refine ⟨rfl, rfl⟩

/-- the parallel kernel (selected when `random_state is None`) is not: two admissible schedules
    of the same two-edge epoch give different states. -/
theorem parallel_not_deterministic :
    ∃ (f : Nat → Int → Int) (head : Nat → Nat) (cells : Nat → Int) (s s' : List Nat),
      s.Perm (List.range 2) ∧ s'.Perm (List.range 2)
      ∧ runEpoch (kernelChoice false) s 2 f head cells
          ≠ runEpoch (kernelChoice false) s' 2 f head cells := by
  exact ⟨fun i v => if i = 0 then v + 1 else v * 2, fun _ => 0, fun _ => 1, [0, 1], [1, 0],
    by decide, by decide, fun h => epoch_schedule_dependent (congrFun h 0)⟩

/-- under the parallel kernel the epoch is nevertheless reproducible when no two edges share a
    head (or their updates commute): every admissible schedule agrees with the sequential run. -/
theorem parallel_eq_sequential_of_commuting {β : Type} (sched : List Nat) (m : Nat)
    (hs : sched.Perm (List.range m)) (f : Nat → β → β) (head : Nat → Nat)
    (hcomm : ∀ i < m, ∀ j < m, head i = head j → f i ∘ f j = f j ∘ f i) (cells : Nat → β) :
    runEpoch .parallel sched m f head cells = runEpoch .sequential sched m f head cells := by
  unfold runEpoch
  exact epoch_perm_of_commuting f head (List.range m) sched hs.symm
    (fun i hi j hj => hcomm i (List.mem_range.mp hi) j (List.mem_range.mp hj)) cells

/-! ### `move_other = True`: two cells per iteration -/

/-- **(5) distinct heads are not enough when the reference moves**: edges `0 : 0 → 2` and
    `1 : 1 → 2` have different heads and share only the TAIL vertex 2; each moves its head a
    quarter of the way towards the tail and the tail a quarter of the way towards the head
    (integer coordinates).  The two orders give different positions for vertex 0. -/
theorem epoch2_schedule_dependent :
    let g : Nat → Int → Int → Int × Int := fun _ h t => (h + (t - h) / 4, t - (t - h) / 4)
    let head : Nat → Nat := fun i => i
    let tail : Nat → Nat := fun _ => 2
    let cells : Nat → Int := fun c => if c = 0 then 0 else if c = 1 then 64 else 16
    head 0 ≠ head 1 ∧ head 0 ≠ tail 1 ∧ head 1 ≠ tail 0 ∧ tail 0 = tail 1
    ∧ epoch2 g head tail [0, 1] cells 0 ≠ epoch2 g head tail [1, 0] cells 0 := by
  decide

/-- vertex-disjoint edges commute: if no vertex of edge `x` is a vertex of edge `y` the two
    iterations may be swapped. -/
theorem edgeStep2_comm {β : Type} (g : Nat → β → β → β × β) (head tail : Nat → Nat)
    (cells : Nat → β) (x y : Nat)
    (h1 : head x ≠ head y) (h2 : head x ≠ tail y) (h3 : tail x ≠ head y) (h4 : tail x ≠ tail y) :
    edgeStep2 g head tail (edgeStep2 g head tail cells x) y
      = edgeStep2 g head tail (edgeStep2 g head tail cells y) x := by
  funext c
  -- neither iteration reads a cell the other writes, so both read `cells`; what is left is the
  -- order of four tests on `c`, of which at most one holds
  simp only [edgeStep2, h1, h2, h3, h4, h1.symm, h2.symm, h3.symm, h4.symm, if_false]
  grind

/-- the `move_other = True` epoch is schedule independent when the edges of the epoch are
    pairwise vertex-disjoint (a matching). -/
theorem epoch2_perm_of_disjoint_edges {β : Type} (g : Nat → β → β → β × β)
    (head tail : Nat → Nat) (order order' : List Nat) (hp : order.Perm order')
    (hdisj : ∀ i ∈ order, ∀ j ∈ order, i ≠ j →
      head i ≠ head j ∧ head i ≠ tail j ∧ tail i ≠ head j ∧ tail i ≠ tail j)
    (cells : Nat → β) :
    epoch2 g head tail order' cells = epoch2 g head tail order cells := by
  unfold epoch2
  symm
  apply List.Perm.foldl_eq' hp
  intro x hx y hy z
  by_cases hxy : x = y
  · subst hxy; rfl
  · obtain ⟨a, b, c, d⟩ := hdisj x hx y hy hxy
    exact edgeStep2_comm g head tail z x y a b c d

/-- non-vacuity: two vertex-disjoint edges `0 : 0 → 1`, `1 : 2 → 3` with the update of (5). -/
example :
    let g : Nat → Int → Int → Int × Int := fun _ h t => (h + (t - h) / 4, t - (t - h) / 4)
    let head : Nat → Nat := fun i => 2 * i
    let tail : Nat → Nat := fun i => 2 * i + 1
    (∀ i ∈ [0, 1], ∀ j ∈ [0, 1], i ≠ j →
      head i ≠ head j ∧ head i ≠ tail j ∧ tail i ≠ head j ∧ tail i ≠ tail j)
    ∧ epoch2 g head tail [1, 0] (fun c => 16 * (c : Int) * c)
        = epoch2 g head tail [0, 1] (fun c => 16 * (c : Int) * c)
    ∧ epoch2 g head tail [0, 1] (fun c => 16 * (c : Int) * c) 3 = 124 := by
  intro g head tail
  have hd : ∀ i ∈ [0, 1], ∀ j ∈ [0, 1], i ≠ j →
      head i ≠ head j ∧ head i ≠ tail j ∧ tail i ≠ head j ∧ tail i ≠ tail j := by decide
  exact ⟨hd, epoch2_perm_of_disjoint_edges g head tail [0, 1] [1, 0] (by decide) hd _, by decide⟩

end C06
end Umap
