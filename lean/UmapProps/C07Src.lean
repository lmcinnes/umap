/-
  C07Src — the scalar helpers of the layout kernels, as generated from the source text of umap/layouts.py
  (`Generated/LayoutSrc.lean`, namespace `Umap.SrcLayout`: `clip` over an ordered field, `rdist` over any scalar type)
  and `tau_rand_int` of umap/utils.py (`Generated/UtilsSrc.lean`, 64-bit words), equal the hand-written model
  (`UmapModel/Sgd.lean`, `UmapModel/Rng.lean`) the C07 theorems are about.
-/
import UmapModel.Sgd
import UmapModel.Rng
import Generated.LayoutSrc
import Generated.UtilsSrc
import Mathlib.Tactic.Linarith
import Mathlib.Tactic.SplitIfs
import UmapProofs.SrcLemmas

set_option linter.unusedSectionVars false -- the `_src` statements

namespace Umap
namespace C07Src

/-- `clip` as written in the source is the model's clamp into `[-4, 4]`, over any linear ordered field.  Proved by case
    analysis on the order rather than by `rfl`, so that order-equivalent forms of the clamp (`max(-4, min(4, v))`) are accepted. -/
theorem clip_src {K : Type} [Field K] [LinearOrder K] [IsStrictOrderedRing K] (v : K) :
    SrcLayout.clip v = Sgd.clip v := by
  unfold SrcLayout.clip Sgd.clip
  first
    | rfl
    | (simp only [maxV, minV]
       push_cast
       split_ifs <;> first | rfl | linarith | (exfalso; linarith))

section generic
variable {α : Type} [Add α] [Sub α] [Mul α] [Div α] [Neg α] [LT α] [LE α]
  [DecidableLT α] [DecidableLE α] [OfNat α 0] [OfNat α 1] [NatCast α] [Inhabited α]

/-- `rdist` as written in the source is the model's squared distance (with the identity as rounding function:
    the model threads float32 rounding through `rnd`, the source text does not mention it), on the first
    `x.length` cells of the two arrays. -/
theorem rdist_src (x y : List α) (h : x.length = y.length) :
    SrcLayout.rdist x y = Sgd.rdist id x.toArray y.toArray x.length := by
  unfold SrcLayout.rdist Sgd.rdist
  simp only [id]
  refine SrcLemmas.foldl_range_congr rfl fun acc i hx => ?_
  have hy : i < y.length := h ▸ hx
  simp [List.getD_eq_getElem?_getD, hx, hy]

end generic

/-- `tau_rand_int` as written in the source of umap/utils.py (int64 words; `>>` the arithmetic shift; the result truncated
    to int32 by the declared numba signature `i4(i8[:])`) is the model's Tausworthe step: same new state words, same
    signed result. -/
theorem tauRandInt_src (a b c : BitVec 64) :
    SrcUtils.tauRandInt [a, b, c]
      = ((Rng.tauRandInt (a, b, c)).2,
         [(Rng.tauRandInt (a, b, c)).1.1, (Rng.tauRandInt (a, b, c)).1.2.1, (Rng.tauRandInt (a, b, c)).1.2.2]) := by
  rfl

end C07Src
end Umap
