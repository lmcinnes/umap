/-
  C03 — the graph depends on the data only through the chosen metric's distances.

  What is proved on the model: the kNN row is a function of the multiset of the row's distances
  (so a sample permutation acts by conjugation), translation of both arguments and a common
  permutation of the features leave the Euclidean distance unchanged, a common positive rescaling
  of distance, rho and bandwidth leaves every blended entry unchanged (from `C01.member_scale`; on
  whole tables in C03Scale), and the live tables — the disconnection distances and the
  sparse / gradient registries — equal their specification (regenerated from /repo each run).
  Partial: dispatch through `sklearn.pairwise_distances` / numba and the parallel argsort are tied
  by the correspondence only.
-/
import UmapModel.Metrics
import UmapProps.C01
import Generated.Registry

namespace Umap
namespace C03
open Metrics

/-- the sorted list of the `k` smallest entries is invariant under any reordering of the row. -/
theorem knn_row_perm_invariant (l l' : List ℝ) (h : l.Perm l') (k : Nat) :
    (l.mergeSort (fun a b => decide (a ≤ b))).take k = (l'.mergeSort (fun a b => decide (a ≤ b))).take k := by
  congr 1
  exact (((List.mergeSort_perm l _).trans h).trans (List.mergeSort_perm l' _).symm).eq_of_pairwise'
    (List.pairwise_mergeSort' (· ≤ ·) l) (List.pairwise_mergeSort' (· ≤ ·) l')

theorem diffs_translate {K : Type} [Field K] (x y c : List K) (hx : x.length = c.length)
    (hy : y.length = c.length) :
    diffs (List.zipWith (· + ·) x c) (List.zipWith (· + ·) y c) = diffs x y := by
  unfold diffs
  refine List.ext_getElem (by simp [hx, hy]) fun i _ _ => ?_
  simp only [List.getElem_map, List.getElem_zip, List.getElem_zipWith, add_sub_add_right_eq_sub]

section
variable {K : Type} [Field K] [LinearOrder K] [IsStrictOrderedRing K]

/-- translating every sample by the same vector leaves every Euclidean distance unchanged. -/
theorem euclid_translate (T : Transc K) (x y c : List K) (hx : x.length = c.length)
    (hy : y.length = c.length) :
    euclidean T (List.zipWith (· + ·) x c) (List.zipWith (· + ·) y c) = euclidean T x y := by
  unfold euclidean; rw [diffs_translate x y c hx hy]

/-- reordering the features (the same permutation of the coordinate pairs) leaves it unchanged. -/
theorem euclid_feature_perm (T : Transc K) (p q : List (K × K)) (h : p.Perm q) :
    T.sqrt (sumL ((p.map (fun t => t.1 - t.2)).map (fun d => d * d)))
      = T.sqrt (sumL ((q.map (fun t => t.1 - t.2)).map (fun d => d * d))) := by
  exact congrArg T.sqrt (sumL_map_perm _ (h.map _))

end

/-- rescaling distances, rho and bandwidth by `c > 0` leaves every membership unchanged; hence
    (C02's blend being a function of the two memberships) every graph entry. -/
theorem graph_scale_invariant_spec {c d r σ d' r' σ' ρ : ℝ} (hc : 0 < c) :
    Graph.mix ρ (Knn.member realT (c * d) (c * r) (c * σ)) (Knn.member realT (c * d') (c * r') (c * σ'))
      = Graph.mix ρ (Knn.member realT d r σ) (Knn.member realT d' r' σ') := by
  rw [C01.member_scale hc, C01.member_scale hc]

/-- the default disconnection distances are exactly those of the six bounded metrics. -/
theorem disconnection_table_spec :
    Generated.disconnectionDistances =
      [("bit_jaccard", 1), ("correlation", 2), ("cosine", 2), ("dice", 1), ("hellinger", 1), ("jaccard", 1)] := by
  decide +kernel

def specSparse : List (String × String) := [
  ("braycurtis", "sparse_bray_curtis"), ("canberra", "sparse_canberra"), ("chebyshev", "sparse_chebyshev"),
  ("correlation", "sparse_correlation"), ("cosine", "sparse_cosine"), ("dice", "sparse_dice"),
  ("euclidean", "sparse_euclidean"), ("hamming", "sparse_hamming"), ("hellinger", "sparse_hellinger"),
  ("jaccard", "sparse_jaccard"), ("kulsinski", "sparse_kulsinski"), ("l1", "sparse_manhattan"),
  ("linf", "sparse_chebyshev"), ("linfinity", "sparse_chebyshev"), ("linfty", "sparse_chebyshev"),
  ("ll_dirichlet", "sparse_ll_dirichlet"), ("manhattan", "sparse_manhattan"), ("matching", "sparse_matching"),
  ("minkowski", "sparse_minkowski"), ("rogerstanimoto", "sparse_rogers_tanimoto"),
  ("russellrao", "sparse_russellrao"), ("sokalmichener", "sparse_sokal_michener"),
  ("sokalsneath", "sparse_sokal_sneath"), ("taxicab", "sparse_manhattan")]

def specGrad : List (String × String) := [
  ("braycurtis", "bray_curtis_grad"), ("canberra", "canberra_grad"), ("chebyshev", "chebyshev_grad"),
  ("correlation", "correlation_grad"), ("cosine", "cosine_grad"), ("euclidean", "euclidean_grad"),
  ("haversine", "haversine_grad"), ("hellinger", "hellinger_grad"), ("hyperboloid", "hyperboloid_grad"),
  ("l1", "manhattan_grad"), ("l2", "euclidean_grad"), ("linf", "chebyshev_grad"),
  ("mahalanobis", "mahalanobis_grad"), ("manhattan", "manhattan_grad"), ("minkowski", "minkowski_grad"),
  ("seuclidean", "standardised_euclidean_grad"), ("symmetric_kl", "symmetric_kl_grad"),
  ("wminkowski", "weighted_minkowski_grad")]

/-- every specified sparse / gradient name is wired to the specified function in the live code;
    the metrics that need `n_features` are exactly the seven specified. -/
theorem registries_spec :
    (∀ e ∈ specSparse, e ∈ Generated.sparseNamedDistances)
    ∧ (∀ e ∈ specGrad, e ∈ Generated.namedDistancesWithGradients)
    ∧ Generated.sparseNeedNFeatures
        = ["correlation", "hamming", "kulsinski", "matching", "rogerstanimoto", "russellrao", "sokalmichener"] := by
  decide +kernel

end C03
end Umap
