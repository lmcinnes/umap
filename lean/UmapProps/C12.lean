/-
  C12 — the binary family of `umap.distances`, `manhattan` and the symmetry of `chebyshev` over any
  ordered field, and the name registry.

  Model: `Umap.Metrics`.  The binary metrics are functions of the support counts (`counts`, read as
  three `countP`s: `counts_eq_countP`).  On counts: symmetry, the value `0` on identical supports, the
  range `[0, 1]`.  Symmetry and the identity convention are lifted to vectors of all lengths
  (`C12_binary_axioms`); the range is not (its hypothesis `tt + tf + ft ≤ n` holds for every
  `counts x y`: `C12SrcB.cnt_le`, proved with the source tie, where the counting loops are).  The live
  `named_distances` is regenerated into `Generated.Registry` and compared with the specification.
-/
import UmapProofs.MetricsLemmas
import Generated.Registry

namespace Umap
namespace C12
open Metrics

def Counts.swap (c : Counts) : Counts := { c with tf := c.ft, ft := c.tf }

section
variable {K : Type} [Field K] [LinearOrder K]

theorem counts_swap (x y : List K) (h : x.length = y.length) :
    counts y x = Counts.swap (counts x y) := by
  rw [counts_eq_countP, counts_eq_countP, ← List.zip_swap x y, ← h]
  -- counting over the swapped pairs is counting the swapped patterns
  simp only [Counts.swap, List.countP_map, Function.comp_def, Prod.fst_swap, Prod.snd_swap,
    Bool.and_comm]

theorem counts_self (x : List K) : (counts x x).tf = 0 ∧ (counts x x).ft = 0 := by
  rw [counts_eq_countP, zip_self]
  -- on the diagonal the one-sided patterns are `b && !b`
  simp only [List.countP_map, Function.comp_def, Bool.and_not_self, Bool.not_and_self,
    List.countP_false, Function.const_apply, and_self]

end

section
variable {K : Type} [Field K]

theorem binary_symmetric (c : Counts) :
    (jaccardC (α := K) (Counts.swap c) = jaccardC c)
    ∧ (matchingC (α := K) (Counts.swap c) = matchingC c)
    ∧ (diceC (α := K) (Counts.swap c) = diceC c)
    ∧ (kulsinskiC (α := K) (Counts.swap c) = kulsinskiC c)
    ∧ (rogersTanimotoC (α := K) (Counts.swap c) = rogersTanimotoC c)
    ∧ (russellRaoC (α := K) (Counts.swap c) = russellRaoC c)
    ∧ (sokalMichenerC (α := K) (Counts.swap c) = sokalMichenerC c)
    ∧ (sokalSneathC (α := K) (Counts.swap c) = sokalSneathC c)
    ∧ (yuleC (α := K) (Counts.swap c) = yuleC c) := by
  obtain ⟨n, tt, tf, ft⟩ := c
  -- six of the nine see `tf`, `ft` only through `neq`, which is left folded …
  have hneq : Counts.neq ⟨n, tt, ft, tf⟩ = Counts.neq ⟨n, tt, tf, ft⟩ := Nat.add_comm ft tf
  -- … jaccard, russellrao and yule through `tt + tf + ft`, `tf * ft`, `n - tt - tf - ft` and symmetric tests
  simp only [jaccardC, matchingC, diceC, kulsinskiC, rogersTanimotoC, russellRaoC, sokalMichenerC,
    sokalSneathC, yuleC, Counts.swap, hneq, Nat.add_right_comm tt ft tf,
    Nat.sub_right_comm (n - tt) ft tf, Nat.mul_comm ft tf, Nat.mul_right_comm 2 ft tf,
    and_comm (a := ft = 0), or_comm (a := ft = 0), and_self]

theorem binary_zero_on_identical (c : Counts) (h : c.tf = 0 ∧ c.ft = 0) :
    jaccardC (α := K) c = 0 ∧ matchingC (α := K) c = 0 ∧ diceC (α := K) c = 0
    ∧ kulsinskiC (α := K) c = 0 ∧ rogersTanimotoC (α := K) c = 0 ∧ russellRaoC (α := K) c = 0
    ∧ sokalMichenerC (α := K) c = 0 ∧ sokalSneathC (α := K) c = 0 ∧ yuleC (α := K) c = 0 := by
  obtain ⟨h1, h2⟩ := h
  -- with no one-sided position each metric takes its `0` branch or has numerator `0`
  have r0 : ∀ b : ℕ, rat (α := K) 0 b = 0 := fun b => by rw [rat, Nat.cast_zero, zero_div]
  simp only [jaccardC, matchingC, diceC, kulsinskiC, rogersTanimotoC, russellRaoC, sokalMichenerC,
    sokalSneathC, yuleC, Counts.neq, h1, h2, Nat.add_zero, Nat.sub_self, Nat.mul_zero, r0, ite_self,
    if_true, true_or, and_self]

end

section
variable {K : Type} [Field K] [LinearOrder K] [IsStrictOrderedRing K]

theorem binary_identity (c : Counts) (h : c.tf = 0 ∧ c.ft = 0) :
    jaccardC (α := K) c = 0 ∨ c.tt + c.tf + c.ft ≠ 0 := by
  by_cases h0 : c.tt + c.tf + c.ft = 0
  · exact Or.inl (if_pos h0)
  · exact Or.inr h0

/-- the seven binary metrics whose supremum is `1` (the value `DISCONNECTION_DISTANCES` gives for
    jaccard and dice).  `hn` holds for every `counts x y` (`C12SrcB.cnt_le`). -/
theorem binary_unit_range (c : Counts) (hn : c.tt + c.tf + c.ft ≤ c.n) :
    (0 ≤ jaccardC (α := K) c ∧ jaccardC (α := K) c ≤ 1)
    ∧ (0 ≤ matchingC (α := K) c ∧ matchingC (α := K) c ≤ 1)
    ∧ (0 ≤ diceC (α := K) c ∧ diceC (α := K) c ≤ 1)
    ∧ (0 ≤ kulsinskiC (α := K) c ∧ kulsinskiC (α := K) c ≤ 1)
    ∧ (0 ≤ rogersTanimotoC (α := K) c ∧ rogersTanimotoC (α := K) c ≤ 1)
    ∧ (0 ≤ russellRaoC (α := K) c ∧ russellRaoC (α := K) c ≤ 1)
    ∧ (0 ≤ sokalMichenerC (α := K) c ∧ sokalMichenerC (α := K) c ≤ 1) := by
  have h1 : c.neq ≤ c.n := by unfold Counts.neq; omega
  have h2 : 2 * c.neq ≤ c.n + c.neq := by omega
  -- four guarded quotients and three plain ones
  exact ⟨ite_rat_range _ (Nat.sub_le _ _), rat_range h1, ite_rat_range _ (Nat.le_add_left _ _),
    ite_rat_range _ (Nat.sub_le _ _), rat_range h2, ite_rat_range _ (Nat.sub_le _ _), rat_range h2⟩

/-- lifted to vectors, for four members of the family (symmetry) and two (identical arguments);
    the others follow from `binary_symmetric` / `binary_zero_on_identical` in the same way. -/
theorem C12_binary_axioms (x y : List K) (h : x.length = y.length) :
    jaccardC (α := K) (counts y x) = jaccardC (counts x y)
    ∧ diceC (α := K) (counts y x) = diceC (counts x y)
    ∧ yuleC (α := K) (counts y x) = yuleC (counts x y)
    ∧ russellRaoC (α := K) (counts y x) = russellRaoC (counts x y)
    ∧ jaccardC (α := K) (counts x x) = 0 ∧ yuleC (α := K) (counts x x) = 0 := by
  rw [counts_swap x y h]
  obtain ⟨a, _, b, _, _, d, _, _, e⟩ := binary_symmetric (K := K) (counts x y)
  obtain ⟨f, _, _, _, _, _, _, _, g⟩ := binary_zero_on_identical (K := K) (counts x x) (counts_self x)
  exact ⟨a, b, e, d, f, g⟩

theorem manhattan_symm (x y : List K) : manhattan y x = manhattan x y := by
  unfold manhattan; rw [diffs_swap_map absV absV_neg]

theorem chebyshev_symm (x y : List K) : chebyshev y x = chebyshev x y := by
  unfold chebyshev; rw [diffs_swap_map absV absV_neg]

theorem manhattan_nonneg (x y : List K) : 0 ≤ manhattan x y :=
  sumL_map_nonneg _ _ fun d _ => absV_nonneg d

theorem manhattan_self (x : List K) : manhattan x x = 0 :=
  sumL_map_diffs_self absV absV_zero x

end

/-- specification of `umap.distances.named_distances`: every accepted name and the function it must
    dispatch to. -/
def specNamed : List (String × String) := [
  ("braycurtis", "bray_curtis"), ("canberra", "canberra"), ("categorical", "categorical_distance"),
  ("chebyshev", "chebyshev"), ("correlation", "correlation"), ("cosine", "cosine"),
  ("count", "count_distance"), ("dice", "dice"), ("euclidean", "euclidean"), ("hamming", "hamming"),
  ("haversine", "haversine"), ("hellinger", "hellinger"),
  ("hierarchical_categorical", "hierarchical_categorical_distance"), ("jaccard", "jaccard"),
  ("kulsinski", "kulsinski"), ("l1", "manhattan"), ("l2", "euclidean"), ("linf", "chebyshev"),
  ("linfinity", "chebyshev"), ("linfty", "chebyshev"), ("ll_dirichlet", "ll_dirichlet"),
  ("mahalanobis", "mahalanobis"), ("manhattan", "manhattan"), ("matching", "matching"),
  ("minkowski", "minkowski"), ("ordinal", "ordinal_distance"), ("poincare", "poincare"),
  ("rogerstanimoto", "rogers_tanimoto"), ("russellrao", "russellrao"),
  ("seuclidean", "standardised_euclidean"), ("sokalmichener", "sokal_michener"),
  ("sokalsneath", "sokal_sneath"), ("standardised_euclidean", "standardised_euclidean"),
  ("string", "levenshtein"), ("symmetric_kl", "symmetric_kl"), ("taxicab", "manhattan"),
  ("weighted_minkowski", "weighted_minkowski"), ("wminkowski", "weighted_minkowski"),
  ("yule", "yule")]

/-- every specified name is wired, in the live code, to the specified function (adding a new
    alias does not break this; rewiring or deleting one does). -/
theorem C12_registry : ∀ e ∈ specNamed, e ∈ Generated.namedDistances :=
  -- both tables are sorted by name (`harness/regen.py` sorts), so one pass decides the inclusion
  fun _ he => (by decide +kernel : specNamed.Sublist Generated.namedDistances).subset he

end C12
end Umap
