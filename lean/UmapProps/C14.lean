/-
  C14 — metric gradients are the derivatives of the distances they accompany.

  Model: `Umap.Grad` (Python: `umap/distances.py`, the `*_grad` functions), at `ℝ` with
  `Umap.realT`.  Vectors are functions `Fin n → ℝ` turned into the model's lists by `List.ofFn`;
  "coordinate `i` varies" is `Function.update x i t`.  For each metric: what the function returns on
  such vectors, as one equation (`…Grad_ofFn`) or, where the code branches, one for the distance and
  one for the gradient (`…Grad_fst`, `…Grad_snd`); that at `eps = 0` the `i`-th gradient entry is the
  derivative in `x i` of the returned distance, under the differentiability conditions of the metric;
  where the code has an `eps`, the exact relation between the regularised (`eps ≠ 0`) gradient and
  the true one; and that the returned distance is the metric of `Umap.Metrics`, on all lists
  (`mahalanobis`: on `List.ofFn` vectors; `hyperboloid` has a gradient function only, in the Python
  source as in `Umap.Metrics`).
-/
import UmapProofs.GradLemmas
import UmapModel.Grad

namespace Umap
namespace C14
open Metrics

variable {n : ℕ}

theorem euclideanGrad_ofFn (eps : ℝ) (x y : Fin n → ℝ) :
    Grad.euclideanGrad realT eps (List.ofFn x) (List.ofFn y)
      = (Real.sqrt (∑ j, (x j - y j) * (x j - y j)),
          List.ofFn fun j => (x j - y j) / (eps + Real.sqrt (∑ k, (x k - y k) * (x k - y k)))) := by
  simp only [Grad.euclideanGrad, euclidean, diffs_ofFn, map_ofFn', sumL_ofFn, realT]

theorem euclideanGrad_length (eps : ℝ) (x y : Fin n → ℝ) :
    (Grad.euclideanGrad realT eps (List.ofFn x) (List.ofFn y)).2.length = n := by
  rw [euclideanGrad_ofFn]; exact List.length_ofFn

theorem euclideanGrad_fst_eq_metric (eps : ℝ) (x y : List ℝ) :
    (Grad.euclideanGrad realT eps x y).1 = euclidean realT x y := rfl

/-- C14, euclidean: the gradient is the derivative of the distance wherever `x ≠ y`. -/
theorem euclidean_grad_hasDerivAt (n : ℕ) (x y : Fin n → ℝ) (i : Fin n) (hne : x ≠ y) :
    HasDerivAt
      (fun t => (Grad.euclideanGrad realT 0 (List.ofFn (Function.update x i t)) (List.ofFn y)).1)
      ((Grad.euclideanGrad realT 0 (List.ofFn x) (List.ofFn y)).2.getD i.val 0) (x i) := by
  simp only [euclideanGrad_ofFn, getD_ofFn, zero_add]
  exact (hasPDerivAt_sum_apply (fun j s => (s - y j) * (s - y j)) x i
    (hasDerivAt_sub_mul_self (y i) (x i))).sqrt_of_two_mul (sumsq_pos hne).ne'

/-- the two points most of the non-vacuity examples below use. -/
theorem one_two_ne_zero_zero : (![1, 2] : Fin 2 → ℝ) ≠ ![0, 0] :=
  Function.ne_iff.2 ⟨0, by norm_num⟩

example : HasDerivAt
    (fun t => (Grad.euclideanGrad realT 0 (List.ofFn (Function.update ![1, 2] 0 t))
      (List.ofFn ![0, 0])).1)
    ((Grad.euclideanGrad realT 0 (List.ofFn ![1, 2]) (List.ofFn ![0, 0])).2.getD (0 : Fin 2).val 0)
    ((![1, 2] : Fin 2 → ℝ) 0) :=
  euclidean_grad_hasDerivAt 2 ![1, 2] ![0, 0] 0 one_two_ne_zero_zero

/-- the regularised gradient is the true one shrunk by `d / (eps + d)`. -/
theorem euclidean_grad_eps (eps : ℝ) (x y : Fin n → ℝ) (i : Fin n) (hne : x ≠ y) :
    (Grad.euclideanGrad realT eps (List.ofFn x) (List.ofFn y)).2.getD i.val 0
      = (Grad.euclideanGrad realT 0 (List.ofFn x) (List.ofFn y)).2.getD i.val 0
        * ((Grad.euclideanGrad realT 0 (List.ofFn x) (List.ofFn y)).1
            / (eps + (Grad.euclideanGrad realT 0 (List.ofFn x) (List.ofFn y)).1)) := by
  simp only [euclideanGrad_ofFn, getD_ofFn]
  exact div_eps_add _ _ _ (Real.sqrt_pos.2 (sumsq_pos hne)).ne'

theorem manhattanGrad_ofFn (x y : Fin n → ℝ) :
    Grad.manhattanGrad (List.ofFn x) (List.ofFn y)
      = (∑ j, |x j - y j|, List.ofFn fun j => signV (x j - y j)) := by
  simp only [Grad.manhattanGrad, manhattan, diffs_ofFn, map_ofFn', sumL_ofFn, absV_eq_abs]

theorem manhattanGrad_length (x y : Fin n → ℝ) :
    (Grad.manhattanGrad (List.ofFn x) (List.ofFn y)).2.length = n := by
  rw [manhattanGrad_ofFn]; exact List.length_ofFn

theorem manhattanGrad_fst_eq_metric (x y : List ℝ) :
    (Grad.manhattanGrad x y).1 = manhattan x y := rfl

/-- C14, manhattan: differentiable in `x i` wherever `x i ≠ y i`. -/
theorem manhattan_grad_hasDerivAt (n : ℕ) (x y : Fin n → ℝ) (i : Fin n) (hi : x i ≠ y i) :
    HasDerivAt
      (fun t => (Grad.manhattanGrad (List.ofFn (Function.update x i t)) (List.ofFn y)).1)
      ((Grad.manhattanGrad (List.ofFn x) (List.ofFn y)).2.getD i.val 0) (x i) := by
  simp only [manhattanGrad_ofFn, getD_ofFn]
  exact hasPDerivAt_sum_apply (fun j s => |s - y j|) x i (hasDerivAt_abs_sub hi)

example : HasDerivAt
    (fun t => (Grad.manhattanGrad (List.ofFn (Function.update ![1, 0] 0 t))
      (List.ofFn ![0, 0])).1)
    ((Grad.manhattanGrad (List.ofFn ![1, 0]) (List.ofFn ![0, 0])).2.getD (0 : Fin 2).val 0)
    ((![1, 0] : Fin 2 → ℝ) 0) :=
  manhattan_grad_hasDerivAt 2 ![1, 0] ![0, 0] 0 (by simp)

theorem seuclideanGrad_ofFn (eps : ℝ) (sigma x y : Fin n → ℝ) :
    Grad.seuclideanGrad realT eps (List.ofFn sigma) (List.ofFn x) (List.ofFn y)
      = (Real.sqrt (∑ j, (x j - y j) * (x j - y j) / sigma j),
          List.ofFn fun j => (x j - y j)
            / (eps + Real.sqrt (∑ k, (x k - y k) * (x k - y k) / sigma k) * sigma j)) := by
  simp only [Grad.seuclideanGrad, seuclidean, diffs_ofFn, zip_ofFn, map_ofFn', sumL_ofFn, realT]

theorem seuclideanGrad_length (eps : ℝ) (sigma x y : Fin n → ℝ) :
    (Grad.seuclideanGrad realT eps (List.ofFn sigma) (List.ofFn x) (List.ofFn y)).2.length = n := by
  rw [seuclideanGrad_ofFn]; exact List.length_ofFn

theorem seuclideanGrad_fst_eq_metric (eps : ℝ) (sigma x y : List ℝ) :
    (Grad.seuclideanGrad realT eps sigma x y).1 = seuclidean realT sigma x y := rfl

/-- C14, seuclidean, general form: differentiable wherever the weighted sum of squares is
    non-zero. -/
theorem seuclidean_grad_hasDerivAt_of_ne_zero (sigma x y : Fin n → ℝ) (i : Fin n)
    (hS : ∑ j, (x j - y j) * (x j - y j) / sigma j ≠ 0) :
    HasPDerivAt
      (fun x => (Grad.seuclideanGrad realT 0 (List.ofFn sigma) (List.ofFn x) (List.ofFn y)).1)
      ((Grad.seuclideanGrad realT 0 (List.ofFn sigma) (List.ofFn x) (List.ofFn y)).2.getD i.val 0)
      x i := by
  simp only [seuclideanGrad_ofFn, getD_ofFn, zero_add]
  refine ((hasPDerivAt_sum_apply (fun j s => (s - y j) * (s - y j) / sigma j) x i
    (((hasDerivAt_sub_mul_self (y i) (x i)).div_const (sigma i)).congr_deriv
      (mul_div_assoc _ _ _))).sqrt_of_two_mul hS).congr_deriv ?_
  rw [div_div, mul_comm (sigma i)]

/-- C14, seuclidean: positive variances, `x ≠ y`. -/
theorem seuclidean_grad_hasDerivAt (n : ℕ) (sigma x y : Fin n → ℝ) (i : Fin n)
    (hs : ∀ j, 0 < sigma j) (hne : x ≠ y) :
    HasDerivAt
      (fun t => (Grad.seuclideanGrad realT 0 (List.ofFn sigma)
        (List.ofFn (Function.update x i t)) (List.ofFn y)).1)
      ((Grad.seuclideanGrad realT 0 (List.ofFn sigma) (List.ofFn x) (List.ofFn y)).2.getD i.val 0)
      (x i) := by
  have hS : 0 < ∑ j, (x j - y j) * (x j - y j) / sigma j :=
    sum_pos_of_ne hne (fun k => div_nonneg (mul_self_nonneg _) (hs k).le)
      fun j hj => div_pos (mul_self_pos.2 (sub_ne_zero.2 hj)) (hs j)
  exact seuclidean_grad_hasDerivAt_of_ne_zero sigma x y i hS.ne'

example : HasDerivAt
    (fun t => (Grad.seuclideanGrad realT 0 (List.ofFn ![2, 3])
      (List.ofFn (Function.update ![1, 2] 0 t)) (List.ofFn ![0, 0])).1)
    ((Grad.seuclideanGrad realT 0 (List.ofFn ![2, 3]) (List.ofFn ![1, 2])
      (List.ofFn ![0, 0])).2.getD (0 : Fin 2).val 0)
    ((![1, 2] : Fin 2 → ℝ) 0) :=
  seuclidean_grad_hasDerivAt 2 ![2, 3] ![1, 2] ![0, 0] 0
    (by simp only [Fin.forall_fin_two, Matrix.cons_val_zero, Matrix.cons_val_one]; norm_num)
    one_two_ne_zero_zero

/-- seuclidean: the regularised gradient is the true one shrunk by `d σ_i / (eps + d σ_i)`. -/
theorem seuclidean_grad_eps (eps : ℝ) (sigma x y : Fin n → ℝ) (i : Fin n)
    (hs : sigma i ≠ 0) (hS : 0 < ∑ j, (x j - y j) * (x j - y j) / sigma j) :
    (Grad.seuclideanGrad realT eps (List.ofFn sigma) (List.ofFn x) (List.ofFn y)).2.getD i.val 0
      = (Grad.seuclideanGrad realT 0 (List.ofFn sigma) (List.ofFn x) (List.ofFn y)).2.getD i.val 0
        * ((Grad.seuclideanGrad realT 0 (List.ofFn sigma) (List.ofFn x) (List.ofFn y)).1 * sigma i
          / (eps + (Grad.seuclideanGrad realT 0 (List.ofFn sigma) (List.ofFn x) (List.ofFn y)).1
              * sigma i)) := by
  simp only [seuclideanGrad_ofFn, getD_ofFn]
  exact div_eps_add _ _ _ (mul_ne_zero (Real.sqrt_pos.2 hS).ne' hs)

/-- `cosineGrad` on `List.ofFn` vectors, with the float equality tests read as equalities. -/
theorem cosineGrad_ofFn (x y : Fin n → ℝ) :
    Grad.cosineGrad realT (List.ofFn x) (List.ofFn y)
      = if (∑ j, x j * x j) = 0 ∧ (∑ j, y j * y j) = 0 then (0, List.ofFn fun _ : Fin n => (0 : ℝ))
        else if (∑ j, x j * x j) = 0 ∨ (∑ j, y j * y j) = 0 then
          (1, List.ofFn fun _ : Fin n => (0 : ℝ))
        else (1 - (∑ j, x j * y j) / Real.sqrt ((∑ j, x j * x j) * (∑ j, y j * y j)),
          List.ofFn fun j => (x j * (∑ k, x k * y k) - y j * (∑ k, x k * x k))
            / Real.sqrt ((∑ k, x k * x k) * (∑ k, x k * x k) * (∑ k, x k * x k)
                * (∑ k, y k * y k))) := by
  simp only [Grad.cosineGrad, dot_ofFn, Bool.and_eq_true, Bool.or_eq_true, eqV_iff, realT,
    zip_ofFn, map_ofFn']

/-- closed form of the cosine distance returned by `cosineGrad`, for every `x` once `y ≠ 0`
    (for `x = 0` the convention `1` agrees with `1 - r / 0`). -/
theorem cosineGrad_fst (x y : Fin n → ℝ) (hy : y ≠ 0) :
    (Grad.cosineGrad realT (List.ofFn x) (List.ofFn y)).1
      = 1 - (∑ j, x j * y j) / Real.sqrt ((∑ j, x j * x j) * (∑ j, y j * y j)) := by
  have hy' := (sum_mul_self_pos hy).ne'
  rw [cosineGrad_ofFn, if_neg (fun h => hy' h.2), apply_ite Prod.fst, ite_eq_right_iff]
  intro h
  rw [h.resolve_right hy', zero_mul, Real.sqrt_zero, div_zero, sub_zero]

theorem cosineGrad_snd {x y : Fin n → ℝ} (hx : x ≠ 0) (hy : y ≠ 0) :
    (Grad.cosineGrad realT (List.ofFn x) (List.ofFn y)).2
      = List.ofFn (fun j => (x j * (∑ k, x k * y k) - y j * (∑ k, x k * x k))
          / Real.sqrt ((∑ k, x k * x k) * (∑ k, x k * x k) * (∑ k, x k * x k)
              * (∑ k, y k * y k))) := by
  have hx' := (sum_mul_self_pos hx).ne'
  have hy' := (sum_mul_self_pos hy).ne'
  rw [cosineGrad_ofFn, if_neg (fun h => hy' h.2), if_neg (fun h => h.elim hx' hy')]

theorem cosineGrad_length (x y : Fin n → ℝ) :
    (Grad.cosineGrad realT (List.ofFn x) (List.ofFn y)).2.length = n := by
  simp only [Grad.cosineGrad, apply_ite Prod.snd, apply_ite List.length, List.length_map,
    List.length_zip, List.length_ofFn, min_self, ite_self]

theorem cosineGrad_fst_eq_metric (x y : List ℝ) :
    (Grad.cosineGrad realT x y).1 = cosine realT x y := by
  simp only [Grad.cosineGrad, cosine, apply_ite Prod.fst]

/-- C14, cosine: differentiable wherever both vectors are non-zero. -/
theorem cosine_grad_hasDerivAt (n : ℕ) (x y : Fin n → ℝ) (i : Fin n) (hx : x ≠ 0) (hy : y ≠ 0) :
    HasDerivAt
      (fun t => (Grad.cosineGrad realT (List.ofFn (Function.update x i t)) (List.ofFn y)).1)
      ((Grad.cosineGrad realT (List.ofFn x) (List.ofFn y)).2.getD i.val 0) (x i) := by
  simp_rw [cosineGrad_fst _ y hy]
  rw [cosineGrad_snd hx hy, getD_ofFn]
  have hnx := sum_mul_self_pos hx
  refine ((hasPDerivAt_sum_mul x y i).one_sub_div_sqrt (hasPDerivAt_sum_mul_self x i) hnx
    (sum_mul_self_pos hy)).congr_deriv ?_
  rw [mul_assoc, Real.sqrt_mul (mul_self_nonneg _), Real.sqrt_mul_self hnx.le]

example : HasDerivAt
    (fun t => (Grad.cosineGrad realT (List.ofFn (Function.update ![1, 2] 0 t))
      (List.ofFn ![3, 1])).1)
    ((Grad.cosineGrad realT (List.ofFn ![1, 2]) (List.ofFn ![3, 1])).2.getD (0 : Fin 2).val 0)
    ((![1, 2] : Fin 2 → ℝ) 0) :=
  cosine_grad_hasDerivAt 2 ![1, 2] ![3, 1] 0
    (Function.ne_iff.2 ⟨0, by norm_num⟩)
    (Function.ne_iff.2 ⟨0, by norm_num⟩)

/-- closed form of the returned distance, for all inputs (a zero denominator gives `0` either
    way). -/
theorem brayCurtisGrad_fst (x y : Fin n → ℝ) :
    (Grad.brayCurtisGrad (List.ofFn x) (List.ofFn y)).1
      = (∑ j, |x j - y j|) / (∑ j, |x j + y j|) := by
  simp only [Grad.brayCurtisGrad, sumL_zip_map_ofFn, absV_eq_abs, apply_ite Prod.fst]
  exact ite_pos_div (d := ∑ j, |x j + y j|) (Finset.sum_nonneg fun j _ => abs_nonneg _) _

theorem brayCurtisGrad_snd {x y : Fin n → ℝ} (hden : 0 < ∑ j, |x j + y j|) :
    (Grad.brayCurtisGrad (List.ofFn x) (List.ofFn y)).2
      = List.ofFn (fun j => (signV (x j - y j)
          - (∑ k, |x k - y k|) / (∑ k, |x k + y k|) * signV (x j + y j))
          / (∑ k, |x k + y k|)) := by
  simp only [Grad.brayCurtisGrad, sumL_zip_map_ofFn, absV_eq_abs]
  rw [if_pos hden]
  simp only [zip_ofFn, map_ofFn']

theorem brayCurtisGrad_length (x y : Fin n → ℝ) :
    (Grad.brayCurtisGrad (List.ofFn x) (List.ofFn y)).2.length = n := by
  simp only [Grad.brayCurtisGrad, apply_ite Prod.snd, apply_ite List.length, List.length_map,
    List.length_zip, List.length_ofFn, min_self, ite_self]

theorem brayCurtisGrad_fst_eq_metric (x y : List ℝ) :
    (Grad.brayCurtisGrad x y).1 = brayCurtis x y := by
  simp only [Grad.brayCurtisGrad, brayCurtis, apply_ite Prod.fst]

/-- C14, Bray–Curtis: differentiable in `x i` wherever `x i ≠ y i` and `x i + y i ≠ 0` (the
    latter also makes the denominator positive). -/
theorem brayCurtis_grad_hasDerivAt (n : ℕ) (x y : Fin n → ℝ) (i : Fin n)
    (hi : x i ≠ y i) (hs : x i + y i ≠ 0) :
    HasDerivAt
      (fun t => (Grad.brayCurtisGrad (List.ofFn (Function.update x i t)) (List.ofFn y)).1)
      ((Grad.brayCurtisGrad (List.ofFn x) (List.ofFn y)).2.getD i.val 0) (x i) := by
  have hden : 0 < ∑ j, |x j + y j| :=
    Finset.sum_pos' (fun j _ => abs_nonneg _) ⟨i, Finset.mem_univ i, abs_pos.2 hs⟩
  simp_rw [brayCurtisGrad_fst]
  rw [brayCurtisGrad_snd hden, getD_ofFn]
  exact (hasPDerivAt_sum_apply (fun j s => |s - y j|) x i (hasDerivAt_abs_sub hi)).div
    (hasPDerivAt_sum_apply (fun j s => |s + y j|) x i (hasDerivAt_abs_add hs)) hden.ne'

example : HasDerivAt
    (fun t => (Grad.brayCurtisGrad (List.ofFn (Function.update ![1, 2] 0 t))
      (List.ofFn ![3, 1])).1)
    ((Grad.brayCurtisGrad (List.ofFn ![1, 2]) (List.ofFn ![3, 1])).2.getD (0 : Fin 2).val 0)
    ((![1, 2] : Fin 2 → ℝ) 0) :=
  brayCurtis_grad_hasDerivAt 2 ![1, 2] ![3, 1] 0
    (by simp only [Matrix.cons_val_zero]; norm_num)
    (by simp only [Matrix.cons_val]; norm_num)

theorem canberraGrad_ofFn (x y : Fin n → ℝ) :
    Grad.canberraGrad (List.ofFn x) (List.ofFn y)
      = (∑ j, |x j - y j| / (|x j| + |y j|),
          List.ofFn fun j => if 0 < |x j| + |y j| then
            signV (x j - y j) / (|x j| + |y j|)
              - |x j - y j| * signV (x j) / ((|x j| + |y j|) * (|x j| + |y j|)) else 0) := by
  simp only [Grad.canberraGrad, canberra, zip_ofFn, map_ofFn', sumL_ofFn, absV_eq_abs]
  congr 1
  exact Finset.sum_congr rfl fun j _ =>
    ite_pos_div (d := |x j| + |y j|) (add_nonneg (abs_nonneg _) (abs_nonneg _)) _

theorem canberraGrad_length (x y : Fin n → ℝ) :
    (Grad.canberraGrad (List.ofFn x) (List.ofFn y)).2.length = n := by
  rw [canberraGrad_ofFn]; exact List.length_ofFn

theorem canberraGrad_fst_eq_metric (x y : List ℝ) :
    (Grad.canberraGrad x y).1 = canberra x y := rfl

/-- C14, Canberra: differentiable in `x i` wherever `x i ≠ 0` and `x i ≠ y i`. -/
theorem canberra_grad_hasDerivAt (n : ℕ) (x y : Fin n → ℝ) (i : Fin n)
    (h0 : x i ≠ 0) (hi : x i ≠ y i) :
    HasDerivAt
      (fun t => (Grad.canberraGrad (List.ofFn (Function.update x i t)) (List.ofFn y)).1)
      ((Grad.canberraGrad (List.ofFn x) (List.ofFn y)).2.getD i.val 0) (x i) := by
  have hden := abs_add_abs_pos h0 (y i)
  simp only [canberraGrad_ofFn, getD_ofFn, if_pos hden]
  apply hasPDerivAt_sum_apply (fun j s => |s - y j| / (|s| + |y j|))
  refine ((hasDerivAt_abs_sub hi).fun_div (hasDerivAt_abs_add_abs (y i) h0) hden.ne').congr_deriv ?_
  rw [sq, sub_div, mul_div_mul_right _ _ hden.ne']

example : HasDerivAt
    (fun t => (Grad.canberraGrad (List.ofFn (Function.update ![1, 2] 0 t))
      (List.ofFn ![3, 1])).1)
    ((Grad.canberraGrad (List.ofFn ![1, 2]) (List.ofFn ![3, 1])).2.getD (0 : Fin 2).val 0)
    ((![1, 2] : Fin 2 → ℝ) 0) :=
  canberra_grad_hasDerivAt 2 ![1, 2] ![3, 1] 0 (by simp) (by simp)

noncomputable def cmean (x : Fin n → ℝ) : ℝ := (∑ j, x j) / (n : ℝ)

/-- the centred dot product: `cdot x x`, `cdot y y`, `cdot x y` are the `nx`, `ny`, `dp` of
    `Grad.correlationGrad` on `List.ofFn` vectors. -/
noncomputable def cdot (x y : Fin n → ℝ) : ℝ := ∑ j, (x j - cmean x) * (y j - cmean y)

theorem sum_sub_cmean (y : Fin n → ℝ) (hn : (n : ℝ) ≠ 0) : ∑ j, (y j - cmean y) = 0 := by
  rw [Finset.sum_sub_distrib, Finset.sum_const, Finset.card_univ, Fintype.card_fin, nsmul_eq_mul,
    cmean, mul_div_cancel₀ _ hn, sub_self]

theorem cdot_eq_dot (x y : Fin n → ℝ) :
    cdot x y = dot (List.ofFn fun j => x j - cmean x) (List.ofFn fun j => y j - cmean y) :=
  (dot_ofFn _ _).symm

theorem cdot_self_pos {x : Fin n → ℝ} (hx : cdot x x ≠ 0) : 0 < cdot x x :=
  lt_of_le_of_ne (cdot_eq_dot x x ▸ dot_self_nonneg _) (Ne.symm hx)

theorem cdot_self_ne_zero {x : Fin n → ℝ} {j k : Fin n} (h : x j ≠ x k) : cdot x x ≠ 0 := by
  intro h0
  rw [cdot_eq_dot, dot_self_eq_zero_iff] at h0
  -- both coordinates equal the mean
  exact h ((sub_eq_zero.1 (h0 _ (List.mem_ofFn.2 ⟨j, rfl⟩))).trans
    (sub_eq_zero.1 (h0 _ (List.mem_ofFn.2 ⟨k, rfl⟩))).symm)

theorem cdot_eq_zero_of_left (x y : Fin n → ℝ) (h : cdot x x = 0) : cdot x y = 0 := by
  rw [cdot_eq_dot] at h ⊢
  exact dot_eq_zero_of_left _ _ h

theorem cdot_comm (x y : Fin n → ℝ) : cdot x y = cdot y x := by
  rw [cdot_eq_dot, cdot_eq_dot, dot_symm]

/-- `correlationGrad` on `List.ofFn` vectors in terms of `cdot`, with the float equality tests
    read as equalities. -/
theorem correlationGrad_ofFn (x y : Fin n → ℝ) :
    Grad.correlationGrad realT (List.ofFn x) (List.ofFn y)
      = if cdot x x = 0 ∧ cdot y y = 0 then (0, List.ofFn fun _ : Fin n => (0 : ℝ))
        else if cdot x x = 0 ∨ cdot y y = 0 then (1, List.ofFn fun _ : Fin n => (0 : ℝ))
        else (1 - cdot x y / Real.sqrt (cdot x x * cdot y y),
          List.ofFn fun j =>
            (x j - cmean x) * (cdot x y / Real.sqrt (cdot x x * cdot y y) / cdot x x)
              - (y j - cmean y) / Real.sqrt (cdot x x * cdot y y)) := by
  simp only [Grad.correlationGrad, mean, Bool.and_eq_true, Bool.or_eq_true, eqV_iff, realT,
    sumL_ofFn, List.length_ofFn, map_ofFn', zip_ofFn, dot_ofFn, cdot, cmean]
  -- what is left differs only inside the `Decidable` instances of the tests, where `simp only`
  -- leaves `cdot` folded
  congr

/-- closed form of the returned correlation distance, for every `x` once `y` is not constant
    (for a constant `x` the value is `1`, which is what the closed form evaluates to in `ℝ`
    because `cdot x y / √0 = 0`; `cdot x y` is `0` there anyway, see `cdot_eq_zero_of_left`). -/
theorem correlationGrad_fst (x y : Fin n → ℝ) (hy : cdot y y ≠ 0) :
    (Grad.correlationGrad realT (List.ofFn x) (List.ofFn y)).1
      = 1 - cdot x y / Real.sqrt (cdot x x * cdot y y) := by
  rw [correlationGrad_ofFn, if_neg (fun h => hy h.2), apply_ite Prod.fst, ite_eq_right_iff]
  intro h
  rw [h.resolve_right hy, zero_mul, Real.sqrt_zero, div_zero, sub_zero]

/-- closed form of the returned gradient where neither vector is constant:
    `(x - μx) * (cos / nx) - (y - μy) / norm` with `norm = √(nx ny)`, `cos = dp / norm`
    (no condition on the centred dot product `dp`). -/
theorem correlationGrad_snd {x y : Fin n → ℝ} (hx : cdot x x ≠ 0) (hy : cdot y y ≠ 0) :
    (Grad.correlationGrad realT (List.ofFn x) (List.ofFn y)).2
      = List.ofFn (fun j =>
          (x j - cmean x) * (cdot x y / Real.sqrt (cdot x x * cdot y y) / cdot x x)
            - (y j - cmean y) / Real.sqrt (cdot x x * cdot y y)) := by
  rw [correlationGrad_ofFn, if_neg (fun h => hy h.2), if_neg (fun h => h.elim hx hy)]

/-- where one of the vectors is constant the returned gradient is zero. -/
theorem correlationGrad_snd_of_const (x y : Fin n → ℝ) (h : cdot x x = 0 ∨ cdot y y = 0) :
    (Grad.correlationGrad realT (List.ofFn x) (List.ofFn y)).2
      = List.ofFn (fun _ : Fin n => (0 : ℝ)) := by
  simp only [correlationGrad_ofFn, if_pos h, apply_ite Prod.snd, ite_self]

theorem correlationGrad_length (x y : Fin n → ℝ) :
    (Grad.correlationGrad realT (List.ofFn x) (List.ofFn y)).2.length = n := by
  simp only [Grad.correlationGrad, apply_ite Prod.snd, apply_ite List.length, List.length_map,
    List.length_zip, List.length_ofFn, min_self, ite_self]

/-- the branch structures of `correlation_grad` and `correlation` agree.  The metric tests the
    centred dot product `dp` (`== 0 → 1`), the gradient function tests the two centred norms `nx`,
    `ny`: `dp = 0` makes the last branch `1 - 0 / s = 1`, and a zero norm makes `dp` zero (`hl`,
    `hr`). -/
theorem correlation_branches (nx ny dp s : ℝ) (hl : nx = 0 → dp = 0) (hr : ny = 0 → dp = 0) :
    (if eqV nx 0 && eqV ny 0 then (0 : ℝ)
      else if eqV nx 0 || eqV ny 0 then 1 else 1 - dp / s)
      = if eqV nx 0 && eqV ny 0 then 0
        else if eqV dp 0 then 1 else 1 - dp / s := by
  simp only [Bool.and_eq_true, Bool.or_eq_true, eqV_iff]
  by_cases h : dp = 0
  · rw [if_pos h, h, zero_div, sub_zero, ite_self]
  · rw [if_neg h, if_neg fun h' : _ ∨ _ => h (h'.elim hl hr)]

theorem correlationGrad_fst_eq_metric (x y : List ℝ) :
    (Grad.correlationGrad realT x y).1 = correlation realT x y := by
  simp only [Grad.correlationGrad, correlation, apply_ite Prod.fst]
  exact correlation_branches _ _ _ _ (dot_eq_zero_of_left _ _) (dot_eq_zero_of_right _ _)

theorem hasPDerivAt_cmean (x : Fin n → ℝ) (i : Fin n) : HasPDerivAt cmean (1 / (n : ℝ)) x i :=
  (hasPDerivAt_sum_coord x i).div_const _

/-- the covariance identity: centring one side is enough, because the centred `y` sums to `0`. -/
theorem cdot_eq_sum_sub (x y : Fin n → ℝ) (hn : (n : ℝ) ≠ 0) :
    cdot x y = ∑ j, x j * y j - (∑ j, x j) * cmean y := by
  have h : ∀ j, (x j - cmean x) * (y j - cmean y)
      = x j * y j - x j * cmean y - cmean x * (y j - cmean y) := fun j => by ring
  simp only [cdot, h, Finset.sum_sub_distrib, ← Finset.mul_sum, ← Finset.sum_mul,
    sum_sub_cmean y hn, mul_zero, sub_zero]

theorem hasPDerivAt_cdot_left (x y : Fin n → ℝ) (i : Fin n) :
    HasPDerivAt (fun x => cdot x y) (y i - cmean y) x i := by
  simp only [cdot_eq_sum_sub _ y (Nat.cast_pos.2 i.pos).ne']
  exact (hasPDerivAt_sum_mul x y i).sub
    (((hasPDerivAt_sum_coord x i).mul_const _).congr_deriv (one_mul _))

theorem hasPDerivAt_cdot_self (x : Fin n → ℝ) (i : Fin n) :
    HasPDerivAt (fun x => cdot x x) (2 * (x i - cmean x)) x i := by
  simp only [cdot_eq_sum_sub _ _ (Nat.cast_pos.2 i.pos).ne']
  refine ((hasPDerivAt_sum_mul_self x i).sub
    ((hasPDerivAt_sum_coord x i).mul (hasPDerivAt_cmean x i))).congr_deriv ?_
  unfold cmean
  ring

/-- the true derivative of the correlation distance (no condition on the centred dot product). -/
theorem hasPDerivAt_correlationGrad_fst (x y : Fin n → ℝ) (i : Fin n)
    (hx : cdot x x ≠ 0) (hy : cdot y y ≠ 0) :
    HasPDerivAt (fun x => (Grad.correlationGrad realT (List.ofFn x) (List.ofFn y)).1)
      (((x i - cmean x) * cdot x y - (y i - cmean y) * cdot x x)
        / (cdot x x * Real.sqrt (cdot x x * cdot y y))) x i := by
  simp only [correlationGrad_fst _ y hy]
  exact (hasPDerivAt_cdot_left x y i).one_sub_div_sqrt (hasPDerivAt_cdot_self x i)
    (cdot_self_pos hx) (cdot_self_pos hy)

/-- C14, correlation: where neither vector is constant the returned gradient is the derivative
    (no condition on the centred dot product: at `cdot x y = 0` the returned entry is
    `-(y i - mean y) / sqrt (nx ny)`, the true derivative, see `hasPDerivAt_correlationGrad_fst`). -/
theorem correlation_grad_hasDerivAt (n : ℕ) (x y : Fin n → ℝ) (i : Fin n)
    (hx : cdot x x ≠ 0) (hy : cdot y y ≠ 0) :
    HasDerivAt
      (fun t => (Grad.correlationGrad realT (List.ofFn (Function.update x i t)) (List.ofFn y)).1)
      ((Grad.correlationGrad realT (List.ofFn x) (List.ofFn y)).2.getD i.val 0) (x i) := by
  refine (hasPDerivAt_correlationGrad_fst x y i hx hy).congr_deriv ?_
  rw [correlationGrad_snd hx hy, getD_ofFn]
  rw [sub_div, mul_comm (y i - cmean y), mul_div_mul_left _ _ hx]
  ring

example : HasDerivAt
    (fun t => (Grad.correlationGrad realT (List.ofFn (Function.update ![1, 2, 4] 0 t))
      (List.ofFn ![0, 1, 0])).1)
    ((Grad.correlationGrad realT (List.ofFn ![1, 2, 4])
      (List.ofFn ![0, 1, 0])).2.getD (0 : Fin 3).val 0)
    ((![1, 2, 4] : Fin 3 → ℝ) 0) :=
  correlation_grad_hasDerivAt 3 ![1, 2, 4] ![0, 1, 0] 0
    (cdot_self_ne_zero (j := 0) (k := 1) (by norm_num))
    (cdot_self_ne_zero (j := 0) (k := 1) (by norm_num))

/-- non-vacuity at a point whose centred dot product is exactly `0`:
    `x = (1,-1,0,0)`, `y = (0,0,1,-1)`. -/
example : cdot ![1, -1, 0, 0] ![0, 0, 1, -1] = 0 ∧ HasDerivAt
    (fun t => (Grad.correlationGrad realT (List.ofFn (Function.update ![1, -1, 0, 0] 0 t))
      (List.ofFn ![0, 0, 1, -1])).1)
    ((Grad.correlationGrad realT (List.ofFn ![1, -1, 0, 0])
      (List.ofFn ![0, 0, 1, -1])).2.getD (0 : Fin 4).val 0)
    ((![1, -1, 0, 0] : Fin 4 → ℝ) 0) :=
  -- all entries and both means are `0` or `±1`: no arithmetic beyond the ring identities
  ⟨by simp only [cdot, cmean, Fin.sum_univ_four, Matrix.cons_val, add_zero, zero_add,
      add_neg_cancel, zero_div, sub_zero, mul_zero, zero_mul],
   correlation_grad_hasDerivAt 4 _ _ 0
    (cdot_self_ne_zero (j := 0) (k := 1) (by norm_num))
    (cdot_self_ne_zero (j := 0) (k := 2) (by simp))⟩

/-- the fold step of `Grad.argmaxAbs`. -/
noncomputable def amStep (acc : ℕ × ℕ × ℝ) (v : ℝ) : ℕ × ℕ × ℝ :=
  if acc.2.2 < absV v then (acc.1 + 1, acc.1, absV v) else (acc.1 + 1, acc.2.1, acc.2.2)

theorem argmaxAbs_eq (ds : List ℝ) :
    Grad.argmaxAbs ds = ((ds.foldl amStep (0, 0, 0)).2.1, (ds.foldl amStep (0, 0, 0)).2.2) := rfl

theorem amFold_eq_maxL (l : List ℝ) (acc : ℕ × ℕ × ℝ) :
    (l.foldl amStep acc).2.2 = maxL acc.2.2 (l.map absV) := by
  induction l generalizing acc with
  | nil => rfl
  | cons v l ih =>
    simp only [List.foldl_cons, List.map_cons, maxL]
    rw [ih]
    unfold maxL amStep
    split_ifs <;> rfl

/-- the record is the initial one or `(index, |value|)` of an entry, the indices counted from
    `acc.1`. -/
theorem amFold_index (l : List ℝ) (acc : ℕ × ℕ × ℝ) :
    (l.foldl amStep acc).2 = acc.2 ∨
      ∃ p ∈ l.zipIdx acc.1, (l.foldl amStep acc).2 = (p.2, |p.1|) := by
  induction l generalizing acc with
  | nil => exact Or.inl rfl
  | cons v l ih =>
    rw [List.foldl_cons, List.zipIdx_cons]
    -- a step advances the counter and keeps the record or replaces it by `(acc.1, |v|)`
    have hs : (amStep acc v).1 = acc.1 + 1
        ∧ ((amStep acc v).2 = acc.2 ∨ (amStep acc v).2 = (acc.1, |v|)) := by
      unfold amStep; rw [absV_eq_abs]; split_ifs
      · exact ⟨rfl, Or.inr rfl⟩
      · exact ⟨rfl, Or.inl rfl⟩
    rcases ih (amStep acc v) with e | ⟨p, hp, e⟩
    · exact hs.2.imp e.trans fun f => ⟨(v, acc.1), List.mem_cons_self, e.trans f⟩
    · exact Or.inr ⟨p, List.mem_cons_of_mem _ (hs.1 ▸ hp), e⟩

theorem argmaxAbs_ofFn_unique (ds : Fin n → ℝ) (k : Fin n) (hpos : ds k ≠ 0)
    (hmax : ∀ j, j ≠ k → |ds j| < |ds k|) :
    Grad.argmaxAbs (List.ofFn ds) = (k.val, |ds k|) := by
  have hk : |ds k| ≤ ((List.ofFn ds).foldl amStep (0, 0, 0)).2.2 := by
    rw [amFold_eq_maxL]
    exact le_maxL _ _ _
      (List.mem_map.2 ⟨ds k, List.mem_ofFn.2 ⟨k, rfl⟩, absV_eq_abs _⟩)
  rw [argmaxAbs_eq]
  rcases amFold_index (List.ofFn ds) (0, 0, 0) with e | ⟨p, hp, e⟩
  · rw [e] at hk; exact absurd hk (not_le.2 (abs_pos.2 hpos))
  · obtain ⟨m, rfl⟩ := List.mem_ofFn.1 (zipIdx_ofFn ds ▸ hp)
    rw [e] at hk ⊢
    -- the recorded index can only be `k`
    rw [show m = k from by_contra fun hne => absurd hk (not_le.2 (hmax _ hne))]

theorem chebyshevGrad_eq (x y : Fin n → ℝ) (k : Fin n) (hk : x k ≠ y k)
    (hmax : ∀ j, j ≠ k → |x j - y j| < |x k - y k|) :
    Grad.chebyshevGrad (List.ofFn x) (List.ofFn y)
      = (|x k - y k|,
         List.ofFn (fun j => if j.val = k.val then signV (x j - y j) else 0)) := by
  simp only [Grad.chebyshevGrad, diffs_ofFn]
  rw [argmaxAbs_ofFn_unique (fun j => x j - y j) k (sub_ne_zero.2 hk) hmax]
  simp only [zipIdx_ofFn, map_ofFn']

theorem chebyshevGrad_length (x y : Fin n → ℝ) :
    (Grad.chebyshevGrad (List.ofFn x) (List.ofFn y)).2.length = n := by
  simp only [Grad.chebyshevGrad, List.length_map, List.length_zipIdx, diffs_ofFn, List.length_ofFn]

theorem chebyshevGrad_fst_eq_metric (x y : List ℝ) :
    (Grad.chebyshevGrad x y).1 = chebyshev x y := by
  simp only [Grad.chebyshevGrad, chebyshev, argmaxAbs_eq]
  exact amFold_eq_maxL _ _

/-- C14, chebyshev: when a single coordinate `k` attains the maximum (strictly, and
    `x k ≠ y k`), the distance is differentiable and the gradient is the signed indicator of
    `k`. -/
theorem chebyshev_grad_hasDerivAt (n : ℕ) (x y : Fin n → ℝ) (i k : Fin n) (hk : x k ≠ y k)
    (hmax : ∀ j, j ≠ k → |x j - y j| < |x k - y k|) :
    HasDerivAt
      (fun t => (Grad.chebyshevGrad (List.ofFn (Function.update x i t)) (List.ofFn y)).1)
      ((Grad.chebyshevGrad (List.ofFn x) (List.ofFn y)).2.getD i.val 0) (x i) := by
  -- near `x` the same coordinate stays the unique maximiser
  have hev : (fun x => (Grad.chebyshevGrad (List.ofFn x) (List.ofFn y)).1)
      =ᶠ[nhds x] fun x => |x k - y k| := by
    have hc : ∀ j, ContinuousAt (fun z : Fin n → ℝ => |z j - y j|) x :=
      fun j => ((continuous_apply j).sub continuous_const).abs.continuousAt
    filter_upwards [continuousAt_const.eventually_lt (hc k) (abs_pos.2 (sub_ne_zero.2 hk)),
      Filter.eventually_all.2 fun j => Filter.eventually_imp_distrib_left.2 fun hj =>
        (hc j).eventually_lt (hc k) (hmax j hj)] with z h0 h1
    rw [chebyshevGrad_eq z y k (sub_ne_zero.1 (abs_pos.1 h0)) h1]
  refine ((((hasPDerivAt_apply x i k).sub_const (y k)).comp
    (hasDerivAt_abs_signV (sub_ne_zero.2 hk))).congr_of_eventuallyEq hev).congr_deriv ?_
  rw [chebyshevGrad_eq x y k hk hmax, getD_ofFn]
  by_cases hik : k = i
  · subst hik; rw [if_pos rfl, if_pos rfl, mul_one]
  · rw [if_neg hik, if_neg fun h => hik (Fin.ext h.symm), mul_zero]

example : HasDerivAt
    (fun t => (Grad.chebyshevGrad (List.ofFn (Function.update ![1, 5] 1 t))
      (List.ofFn ![3, 1])).1)
    ((Grad.chebyshevGrad (List.ofFn ![1, 5]) (List.ofFn ![3, 1])).2.getD (1 : Fin 2).val 0)
    ((![1, 5] : Fin 2 → ℝ) 1) :=
  chebyshev_grad_hasDerivAt 2 ![1, 5] ![3, 1] 1 1 (by simp)
    -- the only other coordinate is `0`: `|1 - 3| < |5 - 1|`
    (Fin.forall_fin_two.2
      ⟨fun _ => by simp only [Matrix.cons_val_zero, Matrix.cons_val_one]; norm_num,
       fun h => absurd rfl h⟩)

theorem hellingerGrad_fst_eq_metric (x y : List ℝ) :
    (Grad.hellingerGrad realT x y).1 = hellinger realT x y := by
  simp only [Grad.hellingerGrad, hellinger, apply_ite Prod.fst, ite_self]

/-- closed form of the returned Hellinger distance, for every `x` once `∑ y ≠ 0`.  The code clamps
    the radicand (`sqrt (max (1 - r / dd) 0)`); over ℝ that is `Real.sqrt (1 - r / dd)`
    (`sqrt_maxV_zero`), so the closed forms below are stated without the clamp. -/
theorem hellingerGrad_fst (x y : Fin n → ℝ) (hy : ∑ j, y j ≠ 0) :
    (Grad.hellingerGrad realT (List.ofFn x) (List.ofFn y)).1
      = Real.sqrt (1 - (∑ j, Real.sqrt (x j * y j)) / Real.sqrt ((∑ j, x j) * (∑ j, y j))) := by
  rw [hellingerGrad_fst_eq_metric]
  simp only [hellinger, sumL_ofFn, zip_ofFn, map_ofFn', Bool.and_eq_true, Bool.or_eq_true,
    eqV_iff, realT, sqrt_maxV_zero]
  rw [if_neg (fun h => hy h.2), ite_eq_right_iff]
  -- `∑ x = 0`: the convention `1` is what the closed form evaluates to
  intro h2
  rw [h2.resolve_right hy, zero_mul, Real.sqrt_zero, div_zero, sub_zero, Real.sqrt_one]

/-- one closed form of the returned gradient for both the `dist = 0` and the `dist ≠ 0` branch:
    in `ℝ` the zero the code returns at `dist = 0` is `… / (2 * 0)`. -/
theorem hellingerGrad_snd {x y : Fin n → ℝ} (hx : ∑ j, x j ≠ 0) (hy : ∑ j, y j ≠ 0) :
    (Grad.hellingerGrad realT (List.ofFn x) (List.ofFn y)).2
      = List.ofFn (fun j =>
          (((∑ k, y k) * (∑ k, Real.sqrt (x k * y k)))
              / (2 * (Real.sqrt ((∑ k, x k) * (∑ k, y k)) * Real.sqrt ((∑ k, x k) * (∑ k, y k))
                  * Real.sqrt ((∑ k, x k) * (∑ k, y k))))
            - (if y j = 0 then 0
                else y j / (2 * Real.sqrt (x j * y j) * Real.sqrt ((∑ k, x k) * (∑ k, y k)))))
          / (2 * Real.sqrt (1 - (∑ k, Real.sqrt (x k * y k))
              / Real.sqrt ((∑ k, x k) * (∑ k, y k))))) := by
  simp only [Grad.hellingerGrad, sumL_ofFn, zip_ofFn, map_ofFn', Bool.and_eq_true,
    Bool.or_eq_true, eqV_iff, realT, two, Nat.cast_ofNat, sqrt_maxV_zero]
  rw [if_neg (fun h => hx h.1), if_neg (fun h => h.elim hx hy), apply_ite Prod.snd,
    ite_eq_right_iff]
  intro h
  simp only [h, mul_zero, div_zero]

/-- at zero distance the returned gradient is zero (no division by the distance). -/
theorem hellingerGrad_snd_of_dist_zero (x y : Fin n → ℝ) (hx : ∑ j, x j ≠ 0) (hy : ∑ j, y j ≠ 0)
    (hd : Real.sqrt (1 - (∑ k, Real.sqrt (x k * y k))
              / Real.sqrt ((∑ k, x k) * (∑ k, y k))) = 0) :
    (Grad.hellingerGrad realT (List.ofFn x) (List.ofFn y)).2 = List.ofFn (fun (_ : Fin n) => (0 : ℝ)) := by
  simp only [hellingerGrad_snd hx hy, hd, mul_zero, div_zero]

theorem hellingerGrad_length (x y : Fin n → ℝ) :
    (Grad.hellingerGrad realT (List.ofFn x) (List.ofFn y)).2.length = n := by
  simp only [Grad.hellingerGrad, apply_ite Prod.snd, apply_ite List.length, List.length_map,
    List.length_zip, List.length_ofFn, min_self, ite_self]

/-- C14, hellinger: differentiable in `x i` where `y i = 0` (the `i`-th affinity term `√(t * 0)` is
    constant) or `x i * y i ≠ 0`, for positive masses and a non-zero distance. -/
theorem hellinger_grad_hasDerivAt_of (x y : Fin n → ℝ) (i : Fin n)
    (hi : y i = 0 ∨ x i * y i ≠ 0) (hx : 0 < ∑ j, x j) (hy : 0 < ∑ j, y j)
    (hd : 1 - (∑ j, Real.sqrt (x j * y j)) / Real.sqrt ((∑ j, x j) * (∑ j, y j)) ≠ 0) :
    HasPDerivAt (fun x => (Grad.hellingerGrad realT (List.ofFn x) (List.ofFn y)).1)
      ((Grad.hellingerGrad realT (List.ofFn x) (List.ofFn y)).2.getD i.val 0) x i := by
  simp only [hellingerGrad_fst _ y hy.ne']
  rw [hellingerGrad_snd hx.ne' hy.ne', getD_ofFn]
  have hr : HasDerivAt (fun s => Real.sqrt (s * y i))
      (if y i = 0 then 0 else y i / (2 * Real.sqrt (x i * y i))) (x i) := by
    rcases hi with hi | hi
    · simp only [hi, mul_zero, Real.sqrt_zero, if_true]
      exact hasDerivAt_const _ _
    · rw [if_neg (right_ne_zero_of_mul hi)]
      exact (((hasDerivAt_id' (x i)).mul_const (y i)).sqrt hi).congr_deriv (by rw [one_mul])
  refine ((hasPDerivAt_sum_apply (fun j s => Real.sqrt (s * y j)) x i hr).sqrt_one_sub_div_sqrt
    (hasPDerivAt_sum_coord x i) (mul_pos hx hy) hd).congr_deriv ?_
  rw [ite_div, zero_div, div_div]

/-- C14, hellinger: differentiable in `x i` where `x i * y i ≠ 0`, both masses are positive and
    the distance is non-zero. -/
theorem hellinger_grad_hasDerivAt (n : ℕ) (x y : Fin n → ℝ) (i : Fin n)
    (hi : x i * y i ≠ 0) (hx : 0 < ∑ j, x j) (hy : 0 < ∑ j, y j)
    (hd : 1 - (∑ j, Real.sqrt (x j * y j)) / Real.sqrt ((∑ j, x j) * (∑ j, y j)) ≠ 0) :
    HasDerivAt
      (fun t => (Grad.hellingerGrad realT (List.ofFn (Function.update x i t)) (List.ofFn y)).1)
      ((Grad.hellingerGrad realT (List.ofFn x) (List.ofFn y)).2.getD i.val 0) (x i) :=
  hellinger_grad_hasDerivAt_of x y i (Or.inr hi) hx hy hd

example : HasDerivAt
    (fun t => (Grad.hellingerGrad realT (List.ofFn (Function.update ![1, 4] 0 t))
      (List.ofFn ![4, 1])).1)
    ((Grad.hellingerGrad realT (List.ofFn ![1, 4]) (List.ofFn ![4, 1])).2.getD (0 : Fin 2).val 0)
    ((![1, 4] : Fin 2 → ℝ) 0) := by
  have h4 : Real.sqrt 4 = 2 := by
    rw [show (4 : ℝ) = 2 ^ 2 by norm_num]; exact Real.sqrt_sq (by norm_num)
  have h25 : Real.sqrt 25 = 5 := by
    rw [show (25 : ℝ) = 5 ^ 2 by norm_num]; exact Real.sqrt_sq (by norm_num)
  refine hellinger_grad_hasDerivAt 2 ![1, 4] ![4, 1] 0 (by simp) ?_ ?_ ?_
  · simp only [Fin.sum_univ_two, Matrix.cons_val]; norm_num
  · simp only [Fin.sum_univ_two, Matrix.cons_val]; norm_num
  · simp only [Fin.sum_univ_two, Matrix.cons_val_zero, Matrix.cons_val_one]
    norm_num [h4, h25]

/-- C14, hellinger, a coordinate with `y i = 0` (any `x i`): the `i`-th term `sqrt (t * 0)` of the
    affinity is identically `0`, so only the mass `∑ x` varies with `x i`; the returned entry
    (`root_term = 0` there, instead of the `0/0` of the code before the repair) is the derivative,
    for positive masses and a non-zero distance. -/
theorem hellinger_grad_hasDerivAt_of_y_zero (n : ℕ) (x y : Fin n → ℝ) (i : Fin n)
    (hi : y i = 0) (hx : 0 < ∑ j, x j) (hy : 0 < ∑ j, y j)
    (hd : 1 - (∑ j, Real.sqrt (x j * y j)) / Real.sqrt ((∑ j, x j) * (∑ j, y j)) ≠ 0) :
    HasDerivAt
      (fun t => (Grad.hellingerGrad realT (List.ofFn (Function.update x i t)) (List.ofFn y)).1)
      ((Grad.hellingerGrad realT (List.ofFn x) (List.ofFn y)).2.getD i.val 0) (x i) :=
  hellinger_grad_hasDerivAt_of x y i (Or.inl hi) hx hy hd

/-- non-vacuity: `x = (3/10, 1/5, 1/2)`, `y = (3/5, 0, 2/5)`, coordinate `1` (where `y` is `0`). -/
example : HasDerivAt
    (fun t => (Grad.hellingerGrad realT (List.ofFn (Function.update ![3/10, 1/5, 1/2] 1 t))
      (List.ofFn ![3/5, 0, 2/5])).1)
    ((Grad.hellingerGrad realT (List.ofFn ![3/10, 1/5, 1/2])
      (List.ofFn ![3/5, 0, 2/5])).2.getD (1 : Fin 3).val 0)
    ((![3/10, 1/5, 1/2] : Fin 3 → ℝ) 1) := by
  -- both masses are `1`
  have sx : ∑ j, (![3/10, 1/5, 1/2] : Fin 3 → ℝ) j = 1 := by
    simp only [Fin.sum_univ_three, Matrix.cons_val]; norm_num
  have sy : ∑ j, (![3/5, 0, 2/5] : Fin 3 → ℝ) j = 1 := by
    simp only [Fin.sum_univ_three, Matrix.cons_val]; norm_num
  refine hellinger_grad_hasDerivAt_of_y_zero 3 _ _ 1 rfl (one_pos.trans_eq sx.symm)
    (one_pos.trans_eq sy.symm) ?_
  simp only [sx, sy, one_mul, Real.sqrt_one, div_one, Fin.sum_univ_three, Matrix.cons_val,
    mul_zero, Real.sqrt_zero, add_zero]
  -- the two remaining affinities are each below `1/2`
  refine sub_ne_zero.2 ((add_lt_add ?_ ?_).trans_eq (add_halves 1)).ne' <;>
    exact (Real.sqrt_lt' one_half_pos).2 (by norm_num)

theorem mahalanobisGrad_ofFn (eps : ℝ) (V : Fin n → Fin n → ℝ) (x y : Fin n → ℝ) :
    Grad.mahalanobisGrad realT eps (List.ofFn (fun j => List.ofFn (V j)))
        (List.ofFn x) (List.ofFn y)
      = (Real.sqrt (∑ j, (∑ k, V j k * (x k - y k)) * (x j - y j)),
          List.ofFn fun j => (∑ k, V j k * (x k - y k))
            / (eps + Real.sqrt (∑ l, (∑ k, V l k * (x k - y k)) * (x l - y l)))) := by
  simp only [Grad.mahalanobisGrad, diffs_ofFn, zip_ofFn, map_ofFn', sumL_ofFn, realT]

theorem mahalanobisGrad_length (eps : ℝ) (V : Fin n → Fin n → ℝ) (x y : Fin n → ℝ) :
    (Grad.mahalanobisGrad realT eps (List.ofFn (fun j => List.ofFn (V j)))
        (List.ofFn x) (List.ofFn y)).2.length = n := by
  rw [mahalanobisGrad_ofFn]; exact List.length_ofFn

theorem mahalanobisGrad_fst_eq_metric (eps : ℝ) (V : Fin n → Fin n → ℝ) (x y : Fin n → ℝ) :
    (Grad.mahalanobisGrad realT eps (List.ofFn (fun j => List.ofFn (V j)))
        (List.ofFn x) (List.ofFn y)).1
      = mahalanobis realT (List.ofFn (fun j => List.ofFn (V j))) (List.ofFn x) (List.ofFn y) := by
  simp only [Grad.mahalanobisGrad, mahalanobis, diffs_ofFn, zip_ofFn, map_ofFn', sumL_ofFn, realT]

/-- C14, mahalanobis: for a symmetric `vinv`, differentiable wherever the quadratic form is
    non-zero. -/
theorem mahalanobis_grad_hasDerivAt (n : ℕ) (V : Fin n → Fin n → ℝ) (x y : Fin n → ℝ)
    (i : Fin n) (hsym : ∀ j k, V j k = V k j)
    (hQ : ∑ j, (∑ k, V j k * (x k - y k)) * (x j - y j) ≠ 0) :
    HasDerivAt
      (fun t => (Grad.mahalanobisGrad realT 0 (List.ofFn (fun j => List.ofFn (V j)))
        (List.ofFn (Function.update x i t)) (List.ofFn y)).1)
      ((Grad.mahalanobisGrad realT 0 (List.ofFn (fun j => List.ofFn (V j)))
        (List.ofFn x) (List.ofFn y)).2.getD i.val 0) (x i) := by
  simp only [mahalanobisGrad_ofFn, getD_ofFn, zero_add]
  have hQ' := HasPDerivAt.sum (u := Finset.univ) fun j _ =>
    (hasPDerivAt_sum_apply (fun k s => V j k * (s - y k)) x i
      ((((hasDerivAt_id' (x i)).sub_const (y i)).const_mul (V j i)).congr_deriv (mul_one _))).mul
    ((hasPDerivAt_apply x i j).sub_const (y j))
  -- by symmetry of `V` the two halves of the product rule are the same sum
  have e : ∑ j, (V j i * (x j - y j)
      + (∑ k, V j k * (x k - y k)) * (if j = i then 1 else 0))
      = 2 * ∑ k, V i k * (x k - y k) := by
    simp only [Finset.sum_add_distrib, mul_ite, mul_one, mul_zero, Finset.sum_ite_eq',
      Finset.mem_univ, if_true, two_mul, hsym _ i]
  exact (hQ'.congr_deriv e).sqrt_of_two_mul hQ

example : HasDerivAt
    (fun t => (Grad.mahalanobisGrad realT 0 (List.ofFn (fun j => List.ofFn (!![2, 1; 1, 3] j)))
      (List.ofFn (Function.update ![1, 2] 0 t)) (List.ofFn ![0, 0])).1)
    ((Grad.mahalanobisGrad realT 0 (List.ofFn (fun j => List.ofFn (!![2, 1; 1, 3] j)))
      (List.ofFn ![1, 2]) (List.ofFn ![0, 0])).2.getD (0 : Fin 2).val 0)
    ((![1, 2] : Fin 2 → ℝ) 0) :=
  mahalanobis_grad_hasDerivAt 2 (!![2, 1; 1, 3]) ![1, 2] ![0, 0] 0
    (Fin.forall_fin_two.2 ⟨Fin.forall_fin_two.2 ⟨rfl, rfl⟩, Fin.forall_fin_two.2 ⟨rfl, rfl⟩⟩)
    (by simp only [Fin.sum_univ_two, Matrix.cons_val, Matrix.of_apply]; norm_num)

theorem mahalanobis_grad_eps (eps : ℝ) (V : Fin n → Fin n → ℝ) (x y : Fin n → ℝ) (i : Fin n)
    (hQ : 0 < ∑ j, (∑ k, V j k * (x k - y k)) * (x j - y j)) :
    (Grad.mahalanobisGrad realT eps (List.ofFn (fun j => List.ofFn (V j)))
        (List.ofFn x) (List.ofFn y)).2.getD i.val 0
      = (Grad.mahalanobisGrad realT 0 (List.ofFn (fun j => List.ofFn (V j)))
          (List.ofFn x) (List.ofFn y)).2.getD i.val 0
        * ((Grad.mahalanobisGrad realT 0 (List.ofFn (fun j => List.ofFn (V j)))
            (List.ofFn x) (List.ofFn y)).1
          / (eps + (Grad.mahalanobisGrad realT 0 (List.ofFn (fun j => List.ofFn (V j)))
            (List.ofFn x) (List.ofFn y)).1)) := by
  simp only [mahalanobisGrad_ofFn, getD_ofFn]
  exact div_eps_add _ _ _ (Real.sqrt_pos.2 hQ).ne'

/-- positive weights and `x ≠ y` give the positivity hypothesis of
    `wminkowski_grad_hasDerivAt`. -/
theorem wsum_abs_rpow_pos {w x y : Fin n → ℝ} (hw : ∀ j, 0 < w j) (hne : x ≠ y) (p : ℝ) :
    0 < ∑ j, w j * |x j - y j| ^ p :=
  sum_pos_of_ne hne (fun k => mul_nonneg (hw k).le (Real.rpow_nonneg (abs_nonneg _) p))
    fun j hj => mul_pos (hw j) (Real.rpow_pos_of_pos (abs_pos.2 (sub_ne_zero.2 hj)) p)

theorem minkowskiGrad_ofFn (p : ℝ) (x y : Fin n → ℝ) :
    Grad.minkowskiGrad realT p (List.ofFn x) (List.ofFn y)
      = ((∑ j, |x j - y j| ^ p) ^ (1 / p),
          List.ofFn fun j => |x j - y j| ^ (p - 1) * signPM (x j - y j)
            * (if 0 < ∑ k, |x k - y k| ^ p then (∑ k, |x k - y k| ^ p) ^ (1 / p - 1) else 0)) := by
  simp only [Grad.minkowskiGrad, diffs_ofFn, map_ofFn', sumL_ofFn, absV_eq_abs, realT]

theorem minkowskiGrad_length (p : ℝ) (x y : Fin n → ℝ) :
    (Grad.minkowskiGrad realT p (List.ofFn x) (List.ofFn y)).2.length = n := by
  rw [minkowskiGrad_ofFn]; exact List.length_ofFn

theorem minkowskiGrad_fst_eq_metric (p : ℝ) (x y : List ℝ) :
    (Grad.minkowskiGrad realT p x y).1 = minkowski realT p x y := rfl

/-- C14, minkowski with `p > 1`: differentiable wherever `x ≠ y`. -/
theorem minkowski_grad_hasDerivAt (n : ℕ) (p : ℝ) (x y : Fin n → ℝ) (i : Fin n)
    (hp : 1 < p) (hne : x ≠ y) :
    HasDerivAt
      (fun t => (Grad.minkowskiGrad realT p (List.ofFn (Function.update x i t)) (List.ofFn y)).1)
      ((Grad.minkowskiGrad realT p (List.ofFn x) (List.ofFn y)).2.getD i.val 0) (x i) := by
  have hS : 0 < ∑ j, |x j - y j| ^ p := by
    simpa only [one_mul] using wsum_abs_rpow_pos (w := fun _ => 1) (fun _ => one_pos) hne p
  simp only [minkowskiGrad_ofFn, getD_ofFn, if_pos hS]
  exact hasPDerivAt_sum_apply_rpow_inv (fun j s => |s - y j| ^ p) x i (zero_lt_one.trans hp).ne'
    (hasDerivAt_abs_sub_rpow (x i) (y i) p hp) hS

example : HasDerivAt
    (fun t => (Grad.minkowskiGrad realT 3 (List.ofFn (Function.update ![1, 2] 0 t))
      (List.ofFn ![0, 0])).1)
    ((Grad.minkowskiGrad realT 3 (List.ofFn ![1, 2]) (List.ofFn ![0, 0])).2.getD (0 : Fin 2).val 0)
    ((![1, 2] : Fin 2 → ℝ) 0) :=
  minkowski_grad_hasDerivAt 2 3 ![1, 2] ![0, 0] 0 (by norm_num) one_two_ne_zero_zero

theorem wminkowskiGrad_ofFn (w : Fin n → ℝ) (p : ℝ) (x y : Fin n → ℝ) :
    Grad.wminkowskiGrad realT (List.ofFn w) p (List.ofFn x) (List.ofFn y)
      = ((∑ j, w j * |x j - y j| ^ p) ^ (1 / p),
          List.ofFn fun j => w j * |x j - y j| ^ (p - 1) * signPM (x j - y j)
            * (if 0 < ∑ k, w k * |x k - y k| ^ p
                then (∑ k, w k * |x k - y k| ^ p) ^ (1 / p - 1) else 0)) := by
  simp only [Grad.wminkowskiGrad, diffs_ofFn, zip_ofFn, map_ofFn', sumL_ofFn, absV_eq_abs, realT]

theorem wminkowskiGrad_length (w : Fin n → ℝ) (p : ℝ) (x y : Fin n → ℝ) :
    (Grad.wminkowskiGrad realT (List.ofFn w) p (List.ofFn x) (List.ofFn y)).2.length = n := by
  rw [wminkowskiGrad_ofFn]; exact List.length_ofFn

theorem wminkowskiGrad_fst_eq_metric (w : List ℝ) (p : ℝ) (x y : List ℝ) :
    (Grad.wminkowskiGrad realT w p x y).1 = wminkowski realT w p x y := rfl

/-- C14, weighted minkowski with `p > 1`: differentiable wherever the weighted sum is positive
    (for positive weights: wherever `x ≠ y`). -/
theorem wminkowski_grad_hasDerivAt (n : ℕ) (w : Fin n → ℝ) (p : ℝ) (x y : Fin n → ℝ) (i : Fin n)
    (hp : 1 < p) (hS : 0 < ∑ j, w j * |x j - y j| ^ p) :
    HasDerivAt
      (fun t => (Grad.wminkowskiGrad realT (List.ofFn w) p
        (List.ofFn (Function.update x i t)) (List.ofFn y)).1)
      ((Grad.wminkowskiGrad realT (List.ofFn w) p (List.ofFn x) (List.ofFn y)).2.getD i.val 0)
      (x i) := by
  simp only [wminkowskiGrad_ofFn, getD_ofFn, if_pos hS]
  exact hasPDerivAt_sum_apply_rpow_inv (fun j s => w j * |s - y j| ^ p) x i (zero_lt_one.trans hp).ne'
    (((hasDerivAt_abs_sub_rpow (x i) (y i) p hp).const_mul (w i)).congr_deriv (by ring)) hS

example : HasDerivAt
    (fun t => (Grad.wminkowskiGrad realT (List.ofFn ![2, 5]) 3
      (List.ofFn (Function.update ![1, 2] 0 t)) (List.ofFn ![0, 0])).1)
    ((Grad.wminkowskiGrad realT (List.ofFn ![2, 5]) 3 (List.ofFn ![1, 2])
      (List.ofFn ![0, 0])).2.getD (0 : Fin 2).val 0)
    ((![1, 2] : Fin 2 → ℝ) 0) :=
  wminkowski_grad_hasDerivAt 2 ![2, 5] 3 ![1, 2] ![0, 0] 0 (by norm_num)
    (wsum_abs_rpow_pos
      (by simp only [Fin.forall_fin_two, Matrix.cons_val_zero, Matrix.cons_val_one]; norm_num)
      one_two_ne_zero_zero 3)

/-- the Lorentzian product `B = sqrt(1+|x|²) sqrt(1+|y|²) - <x,y>` of the lifted points. -/
noncomputable def hypB (x y : Fin n → ℝ) : ℝ :=
  Real.sqrt (1 + ∑ j, x j * x j) * Real.sqrt (1 + ∑ j, y j * y j) - ∑ j, x j * y j

/-- `hyperboloidGrad` where the clamp `B ≤ 1 → B := 1 + eps` is inactive. -/
theorem hyperboloidGrad_of_lt {eps : ℝ} {x y : Fin n → ℝ} (hB : 1 < hypB x y) :
    Grad.hyperboloidGrad realT eps (List.ofFn x) (List.ofFn y)
      = (Real.arcosh (hypB x y),
          List.ofFn fun j =>
            1 / (Real.sqrt (hypB x y - 1) * Real.sqrt (hypB x y + 1))
              * (x j * Real.sqrt (1 + ∑ k, y k * y k) / Real.sqrt (1 + ∑ k, x k * x k) - y j)) := by
  unfold hypB at hB ⊢
  simp only [Grad.hyperboloidGrad, dot_ofFn, zip_ofFn, map_ofFn', realT, if_neg (not_le.2 hB)]

theorem hyperboloidGrad_length (eps : ℝ) (x y : Fin n → ℝ) :
    (Grad.hyperboloidGrad realT eps (List.ofFn x) (List.ofFn y)).2.length = n := by
  simp only [Grad.hyperboloidGrad, List.length_map, List.length_zip, List.length_ofFn, min_self]

/-- `1 + r < √((1 + a)(1 + b))` from Cauchy–Schwarz `r² ≤ a b` and `0 < a + b - 2 r`
    (`= |x - y|²`). -/
theorem one_add_lt_sqrt {a b r : ℝ} (hcs : r * r ≤ a * b) (hd : 0 < a + b - 2 * r) :
    1 + r < Real.sqrt ((1 + a) * (1 + b)) := by
  by_cases h : 0 ≤ 1 + r
  · rw [Real.lt_sqrt h]; linear_combination hd + hcs
  · exact lt_of_lt_of_le (not_le.1 h) (Real.sqrt_nonneg _)

/-- distinct points have Lorentzian product `> 1` (Cauchy–Schwarz), so the clamp is inactive. -/
theorem hypB_gt_one {x y : Fin n → ℝ} (hne : x ≠ y) : 1 < hypB x y := by
  unfold hypB
  have hcs : (∑ j, x j * y j) * (∑ j, x j * y j) ≤ (∑ j, x j * x j) * (∑ j, y j * y j) := by
    simpa only [sq] using Finset.sum_mul_sq_le_sq_mul_sq Finset.univ x y
  have e : ∑ j, (x j - y j) * (x j - y j)
      = (∑ j, x j * x j) + (∑ j, y j * y j) - 2 * (∑ j, x j * y j) := by
    rw [Finset.mul_sum, ← Finset.sum_add_distrib, ← Finset.sum_sub_distrib]
    exact Finset.sum_congr rfl fun j _ => by ring
  have hd := sumsq_pos hne
  rw [e] at hd
  rw [← Real.sqrt_mul (add_nonneg zero_le_one (Finset.sum_nonneg fun j _ => mul_self_nonneg _))]
  exact lt_sub_iff_add_lt.2 (one_add_lt_sqrt hcs hd)

theorem continuous_hypB (y : Fin n → ℝ) : Continuous fun x => hypB x y := by
  unfold hypB; fun_prop

theorem hasPDerivAt_hypB (x y : Fin n → ℝ) (i : Fin n) :
    HasPDerivAt (fun x => hypB x y)
      (x i / Real.sqrt (1 + ∑ j, x j * x j) * Real.sqrt (1 + ∑ j, y j * y j) - y i) x i := by
  have h1 : 0 < 1 + ∑ j, x j * x j :=
    add_pos_of_pos_of_nonneg one_pos (Finset.sum_nonneg (fun j _ => mul_self_nonneg _))
  exact ((((hasPDerivAt_sum_mul_self x i).const_add 1).sqrt_of_two_mul h1.ne').mul_const _).sub
    (hasPDerivAt_sum_mul x y i)

/-- C14, hyperboloid: differentiable wherever `x ≠ y`. -/
theorem hyperboloid_grad_hasDerivAt (n : ℕ) (x y : Fin n → ℝ) (i : Fin n) (hne : x ≠ y) :
    HasDerivAt
      (fun t => (Grad.hyperboloidGrad realT 0 (List.ofFn (Function.update x i t)) (List.ofFn y)).1)
      ((Grad.hyperboloidGrad realT 0 (List.ofFn x) (List.ofFn y)).2.getD i.val 0) (x i) := by
  have hB := hypB_gt_one hne
  -- near `x` the clamp stays inactive
  have hev : (fun x => (Grad.hyperboloidGrad realT 0 (List.ofFn x) (List.ofFn y)).1)
      =ᶠ[nhds x] fun x => Real.arcosh (hypB x y) := by
    filter_upwards [continuousAt_const.eventually_lt (continuous_hypB y).continuousAt hB] with z hz
    rw [hyperboloidGrad_of_lt hz]
  refine (((hasPDerivAt_hypB x y i).comp (Real.hasDerivAt_arcosh hB)).congr_of_eventuallyEq
    hev).congr_deriv ?_
  rw [hyperboloidGrad_of_lt hB, getD_ofFn]
  have e : Real.sqrt (hypB x y ^ 2 - 1)
      = Real.sqrt (hypB x y - 1) * Real.sqrt (hypB x y + 1) := by
    rw [← Real.sqrt_mul (sub_nonneg.2 hB.le)]; congr 1; ring
  rw [e, one_div, div_mul_eq_mul_div]

example : HasDerivAt
    (fun t => (Grad.hyperboloidGrad realT 0 (List.ofFn (Function.update ![1, 2] 0 t))
      (List.ofFn ![0, 0])).1)
    ((Grad.hyperboloidGrad realT 0 (List.ofFn ![1, 2])
      (List.ofFn ![0, 0])).2.getD (0 : Fin 2).val 0)
    ((![1, 2] : Fin 2 → ℝ) 0) :=
  hyperboloid_grad_hasDerivAt 2 ![1, 2] ![0, 0] 0 one_two_ne_zero_zero

/-- for distinct points the regularising constant is never used. -/
theorem hyperboloid_grad_eps (eps : ℝ) (x y : Fin n → ℝ) (hne : x ≠ y) :
    Grad.hyperboloidGrad realT eps (List.ofFn x) (List.ofFn y)
      = Grad.hyperboloidGrad realT 0 (List.ofFn x) (List.ofFn y) := by
  have hB := hypB_gt_one hne
  rw [hyperboloidGrad_of_lt hB, hyperboloidGrad_of_lt hB]

noncomputable def klX (z : ℝ) (x : Fin n → ℝ) : ℝ := ∑ k, (x k + z)

noncomputable def klP (z : ℝ) (x : Fin n → ℝ) (j : Fin n) : ℝ := (x j + z) / klX z x

/-- partial derivative of the divergence in the normalised coordinate `P j`. -/
noncomputable def klG (z : ℝ) (x y : Fin n → ℝ) (j : Fin n) : ℝ :=
  (Real.log (klP z x j / klP z y j) - klP z y j / klP z x j + 1) / 2

theorem symmetricKlGrad_ofFn (z : ℝ) (x y : Fin n → ℝ) :
    Grad.symmetricKlGrad realT z (List.ofFn x) (List.ofFn y)
      = ((∑ j, klP z x j * Real.log (klP z x j / klP z y j)
            + ∑ j, klP z y j * Real.log (klP z y j / klP z x j)) / 2,
          List.ofFn fun j => (klG z x y j - ∑ k, klP z x k * klG z x y k) / klX z x) := by
  simp only [Grad.symmetricKlGrad, symmetricKl, sumL_ofFn, map_ofFn', zip_ofFn, realT, two,
    Nat.cast_ofNat, klG, klP, klX]

theorem symmetricKlGrad_fst_eq_metric (z : ℝ) (x y : List ℝ) :
    (Grad.symmetricKlGrad realT z x y).1 = symmetricKl realT z x y := rfl

theorem symmetricKlGrad_length (z : ℝ) (x y : Fin n → ℝ) :
    (Grad.symmetricKlGrad realT z (List.ofFn x) (List.ofFn y)).2.length = n := by
  rw [symmetricKlGrad_ofFn]; exact List.length_ofFn

/-- the Jacobian of the normalisation `P_j = (x_j + z) / ∑_k (x_k + z)`. -/
theorem hasPDerivAt_klP (z : ℝ) (x : Fin n → ℝ) (i j : Fin n) (hX : klX z x ≠ 0) :
    HasPDerivAt (fun x => klP z x j) (((if j = i then 1 else 0) - klP z x j) / klX z x) x i :=
  (((hasPDerivAt_apply x i j).add_const z).div
    (hasPDerivAt_sum_apply (fun _ s => s + z) x i ((hasDerivAt_id' _).add_const z)) hX).congr_deriv
    (by rw [mul_one]; rfl)

/-- chain rule through the normalisation: `∑_j φ_j (P_j)` with `φ_j' (P_j) = G j` has, in `x i`,
    the derivative `(G i - ∑_k P_k G k) / ∑_k (x_k + z)`. -/
theorem hasPDerivAt_sum_comp_klP (φ : Fin n → ℝ → ℝ) (G : Fin n → ℝ) (z : ℝ) (x : Fin n → ℝ)
    (i : Fin n) (hX : klX z x ≠ 0) (hφ : ∀ j, HasDerivAt (φ j) (G j) (klP z x j)) :
    HasPDerivAt (fun x => ∑ j, φ j (klP z x j)) ((G i - ∑ k, klP z x k * G k) / klX z x) x i := by
  refine (HasPDerivAt.sum (u := Finset.univ) fun j _ =>
    (hasPDerivAt_klP z x i j hX).comp (hφ j)).congr_deriv ?_
  have e : ∀ j, G j * (((if j = i then 1 else 0) - klP z x j) / klX z x)
      = ((if j = i then G j else 0) - klP z x j * G j) / klX z x := by
    intro j; split_ifs <;> ring
  simp only [e, ← Finset.sum_div, Finset.sum_sub_distrib, Finset.sum_ite_eq', Finset.mem_univ,
    if_true]

/-- one term `p log (p / q) + q log (q / p)` of the symmetrised divergence, in `p`. -/
theorem hasDerivAt_symmKl_term {p q : ℝ} (hp : p ≠ 0) (hq : q ≠ 0) :
    HasDerivAt (fun s => s * Real.log (s / q) + q * Real.log (q / s))
      (Real.log (p / q) - q / p + 1) p := by
  have hid := hasDerivAt_id' p
  have h1 := hid.fun_mul ((hid.div_const q).log (div_ne_zero hp hq))
  have h2 := (((hasDerivAt_const p q).fun_div hid hp).log (div_ne_zero hq hp)).const_mul q
  refine (h1.fun_add h2).congr_deriv ?_
  field_simp
  ring

/-- C14, symmetric KL (as repaired): differentiable wherever all smoothed coordinates and both
    masses are non-zero (in practice: positive). -/
theorem symmetricKl_grad_hasDerivAt_of_ne_zero (z : ℝ) (x y : Fin n → ℝ) (i : Fin n)
    (hX : klX z x ≠ 0) (hY : klX z y ≠ 0) (hx : ∀ j, x j + z ≠ 0) (hy : ∀ j, y j + z ≠ 0) :
    HasPDerivAt (fun x => (Grad.symmetricKlGrad realT z (List.ofFn x) (List.ofFn y)).1)
      ((Grad.symmetricKlGrad realT z (List.ofFn x) (List.ofFn y)).2.getD i.val 0) x i := by
  simp only [symmetricKlGrad_ofFn, getD_ofFn, ← Finset.sum_add_distrib]
  have h := (hasPDerivAt_sum_comp_klP
    (fun j s => s * Real.log (s / klP z y j) + klP z y j * Real.log (klP z y j / s)) _ z x i hX
    (fun j => hasDerivAt_symmKl_term (div_ne_zero (hx j) hX) (div_ne_zero (hy j) hY))).div_const 2
  refine h.congr_deriv ?_
  simp only [klG, mul_div_assoc', ← Finset.sum_div]
  ring

/-- C14, symmetric KL on its natural domain (all smoothed coordinates positive). -/
theorem symmetricKl_grad_hasDerivAt (n : ℕ) (z : ℝ) (x y : Fin n → ℝ) (i : Fin n)
    (hx : ∀ j, 0 < x j + z) (hy : ∀ j, 0 < y j + z) :
    HasDerivAt
      (fun t => (Grad.symmetricKlGrad realT z (List.ofFn (Function.update x i t)) (List.ofFn y)).1)
      ((Grad.symmetricKlGrad realT z (List.ofFn x) (List.ofFn y)).2.getD i.val 0) (x i) := by
  have hX : 0 < klX z x :=
    Finset.sum_pos' (fun j _ => (hx j).le) ⟨i, Finset.mem_univ i, hx i⟩
  have hY : 0 < klX z y :=
    Finset.sum_pos' (fun j _ => (hy j).le) ⟨i, Finset.mem_univ i, hy i⟩
  exact symmetricKl_grad_hasDerivAt_of_ne_zero z x y i hX.ne' hY.ne'
    (fun j => (hx j).ne') (fun j => (hy j).ne')

example : HasDerivAt
    (fun t => (Grad.symmetricKlGrad realT 1 (List.ofFn (Function.update ![1, 2] 0 t))
      (List.ofFn ![3, 0])).1)
    ((Grad.symmetricKlGrad realT 1 (List.ofFn ![1, 2])
      (List.ofFn ![3, 0])).2.getD (0 : Fin 2).val 0)
    ((![1, 2] : Fin 2 → ℝ) 0) :=
  symmetricKl_grad_hasDerivAt 2 1 ![1, 2] ![3, 0] 0
    (by simp only [Fin.forall_fin_two, Matrix.cons_val]; norm_num)
    (by simp only [Fin.forall_fin_two, Matrix.cons_val]; norm_num)

section pinned
variable {α : Type} [Add α] [Sub α] [Mul α] [Div α] [Neg α] [LT α] [LE α]
  [DecidableLT α] [DecidableLE α] [OfNat α 0] [OfNat α 1] [NatCast α]

/-- `correlation_grad` as it was before the repair (the former `Grad.correlationGrad`, copied):
    a zero gradient whenever the centred dot product is exactly `0`. -/
def pinnedCorrelationGrad (T : Transc α) (x y : List α) : α × List α :=
  let mx := mean x
  let my := sumL y / (x.length : α)
  let sx := x.map (· - mx)
  let sy := y.map (· - my)
  let nx := dot sx sx
  let ny := dot sy sy
  let dp := dot sx sy
  if eqV nx 0 && eqV ny 0 then (0, x.map (fun _ => 0))
  else if eqV dp 0 then (1, x.map (fun _ => 0))
  else
    let dist := 1 - dp / T.sqrt (nx * ny)
    (dist, (sx.zip sy).map (fun p => (p.1 / nx - p.2 / dp) * (1 - dist)))

end pinned

theorem pinnedCorrelationGrad_fst_eq_metric (x y : List ℝ) :
    (pinnedCorrelationGrad realT x y).1 = correlation realT x y := by
  simp only [pinnedCorrelationGrad, correlation, apply_ite Prod.fst]

theorem pinnedCorrelationGrad_fst_eq (x y : List ℝ) :
    (pinnedCorrelationGrad realT x y).1 = (Grad.correlationGrad realT x y).1 := by
  rw [pinnedCorrelationGrad_fst_eq_metric, correlationGrad_fst_eq_metric]

theorem pinnedCorrelationGrad_ofFn (x y : Fin n → ℝ) :
    pinnedCorrelationGrad realT (List.ofFn x) (List.ofFn y)
      = if cdot x x = 0 ∧ cdot y y = 0 then (0, List.ofFn fun _ : Fin n => (0 : ℝ))
        else if cdot x y = 0 then (1, List.ofFn fun _ : Fin n => (0 : ℝ))
        else (1 - cdot x y / Real.sqrt (cdot x x * cdot y y),
          List.ofFn fun j =>
            ((x j - cmean x) / cdot x x - (y j - cmean y) / cdot x y)
              * (1 - (1 - cdot x y / Real.sqrt (cdot x x * cdot y y)))) := by
  simp only [pinnedCorrelationGrad, mean, Bool.and_eq_true, eqV_iff, realT, sumL_ofFn,
    List.length_ofFn, map_ofFn', zip_ofFn, dot_ofFn, cdot, cmean]
  congr  -- as in `correlationGrad_ofFn`

/-- when the centred dot product is exactly `0` the pinned code returns a zero gradient … -/
theorem pinnedCorrelationGrad_snd_of_cdot_zero (x y : Fin n → ℝ) (hdp : cdot x y = 0) :
    (pinnedCorrelationGrad realT (List.ofFn x) (List.ofFn y)).2
      = List.ofFn (fun _ : Fin n => (0 : ℝ)) := by
  simp only [pinnedCorrelationGrad_ofFn, if_pos hdp, apply_ite Prod.snd, ite_self]

theorem pinned_alg (a b nx dp s : ℝ) (hdp : dp ≠ 0) :
    (a / nx - b / dp) * (1 - (1 - dp / s)) = a * (dp / s / nx) - b / s := by
  rw [sub_sub_cancel, sub_mul, div_mul_div_cancel₀ hdp]
  ring

/-- … and where the centred dot product is non-zero it returns what the repaired code returns. -/
theorem pinnedCorrelationGrad_snd_of_cdot_ne_zero (x y : Fin n → ℝ) (hdp : cdot x y ≠ 0) :
    (pinnedCorrelationGrad realT (List.ofFn x) (List.ofFn y)).2
      = (Grad.correlationGrad realT (List.ofFn x) (List.ofFn y)).2 := by
  have hx : cdot x x ≠ 0 := fun h => hdp (cdot_eq_zero_of_left x y h)
  have hy : cdot y y ≠ 0 := fun h => hdp ((cdot_comm x y).trans (cdot_eq_zero_of_left y x h))
  rw [correlationGrad_snd hx hy, pinnedCorrelationGrad_ofFn, if_neg (fun h => hx h.1),
    if_neg hdp]
  exact congrArg List.ofFn (funext fun _ => pinned_alg _ _ _ _ _ hdp)

/-- … although the distance is differentiable there with a non-zero derivative (for
    non-constant `x`, `y` and `y i ≠ mean y`): the entry returned by the pinned code is not the
    derivative of the distance it returns.  (The repaired `Grad.correlationGrad` does return the
    derivative there: `correlation_grad_hasDerivAt`.) -/
theorem pinned_correlation_grad_ne_deriv_of_cdot_zero (x y : Fin n → ℝ) (i : Fin n)
    (hx : cdot x x ≠ 0) (hy : cdot y y ≠ 0) (hdp : cdot x y = 0) (hi : y i ≠ cmean y) :
    ∃ d : ℝ, HasDerivAt
      (fun t => (pinnedCorrelationGrad realT (List.ofFn (Function.update x i t)) (List.ofFn y)).1)
      d (x i) ∧ d ≠ (pinnedCorrelationGrad realT (List.ofFn x) (List.ofFn y)).2.getD i.val 0 := by
  simp_rw [pinnedCorrelationGrad_fst_eq]
  refine ⟨_, hasPDerivAt_correlationGrad_fst x y i hx hy, ?_⟩
  rw [pinnedCorrelationGrad_snd_of_cdot_zero x y hdp, getD_ofFn, hdp]
  have hs : Real.sqrt (cdot x x * cdot y y) ≠ 0 :=
    (Real.sqrt_pos.2 (mul_pos (cdot_self_pos hx) (cdot_self_pos hy))).ne'
  apply div_ne_zero _ (mul_ne_zero hx hs)
  rw [mul_zero, zero_sub, neg_ne_zero]
  exact mul_ne_zero (sub_ne_zero.2 hi) hx

/-- non-vacuity: `x = (1,2,3,6)`, `y = (1,1,0,1)` have centred dot product `0`. -/
example : ∃ d : ℝ, HasDerivAt
      (fun t => (pinnedCorrelationGrad realT (List.ofFn (Function.update ![1, 2, 3, 6] 0 t))
        (List.ofFn ![1, 1, 0, 1])).1) d ((![1, 2, 3, 6] : Fin 4 → ℝ) 0) ∧
      d ≠ (pinnedCorrelationGrad realT (List.ofFn ![1, 2, 3, 6])
        (List.ofFn ![1, 1, 0, 1])).2.getD (0 : Fin 4).val 0 :=
  pinned_correlation_grad_ne_deriv_of_cdot_zero ![1, 2, 3, 6] ![1, 1, 0, 1] 0
    (cdot_self_ne_zero (j := 0) (k := 1) (by norm_num))
    (cdot_self_ne_zero (j := 0) (k := 2) (by simp))
    (by simp only [cdot, cmean, Fin.sum_univ_four, Matrix.cons_val]; norm_num)
    (by simp only [cmean, Fin.sum_univ_four, Matrix.cons_val]; norm_num)

end C14
end Umap
