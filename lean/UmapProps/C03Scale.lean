/-
  C03 (rescaling) — "rescaling all distances by a positive constant leaves the graph unchanged",
  C01 (e) — "multiplying all distances by a positive constant leaves every membership strength
  unchanged", on the end-to-end graph-stage model `Graph.graphOfKnn` (C02Pipeline).

  What is and what is not exactly scale-equivariant in `smooth_knn_dist`:
    * rho, the global / per-row finite mean and the `MIN_K_DIST_SCALE` floor ARE (degree 1), proved
      about the model's own computation;
    * the 64-step bisection is NOT: it starts at bandwidth 1 whatever the scale of the data, so its
      result for the scaled row is in general not `c` times its result for the row
      (`not_scaledSearch_of_unreachable`).  Only its *target* is equivariant: `σ` solves the
      calibration equation of a row iff `c σ` solves that of the scaled row (`calibrated_scale`).

  So the theorems are stated on the strengths, with the bandwidths as data: for ANY per-row `(σ, ρ)`
  scaled by `c` every directed strength and every blended entry is unchanged
  (`dirStrengthWith_scale`, `graph_scale_invariant`); exactly calibrated bandwidths scale
  (`graph_scale_invariant_calibrated`); and for the model's own pipeline the two fitted graphs are
  *equal* under the single hypothesis `ScaledBandwidths` about the search result
  (`graphOfKnn_scale_invariant`), which holds outright in the floor-dominated regime for `c ≥ 1`
  (`scaledBandwidths_of_floor`).
-/
import UmapProps.C03Equivariance
import UmapProps.C01Calibration

namespace Umap
namespace C03
open Graph Knn C02
open C01 (scaleRow scaleExt)

/-- the kNN distance table with every finite distance multiplied by `c` (`inf` stays `inf`). -/
def scaleTable (c : ℝ) (ds : List (List (Option ℝ))) : List (List (Option ℝ)) :=
  ds.map (scaleRow c)

/-- a per-row list of `(bandwidth, rho)` with both multiplied by `c` (`inf`/NaN rho unchanged). -/
def scaleSR (c : ℝ) (sr : List (ℝ × Ext ℝ)) : List (ℝ × Ext ℝ) :=
  sr.map (fun p => (c * p.1, scaleExt c p.2))

theorem scaleTable_getElem? (c : ℝ) (ds : List (List (Option ℝ))) (i : Nat) :
    (scaleTable c ds)[i]? = (ds[i]?).map (scaleRow c) :=
  List.getElem?_map ..

theorem scaleSR_getElem? (c : ℝ) (sr : List (ℝ × Ext ℝ)) (i : Nat) :
    (scaleSR c sr)[i]? = (sr[i]?).map (fun p => (c * p.1, scaleExt c p.2)) :=
  List.getElem?_map ..

theorem finiteMean_scaleTable (c : ℝ) (ds : List (List (Option ℝ))) :
    finiteMean (scaleTable c ds).flatten = c * finiteMean ds.flatten := by
  have : (scaleTable c ds).flatten = scaleRow c ds.flatten := (List.map_flatten ..).symm
  rw [this, C01.finiteMean_scale_row]

/-- C01 (e), re-exported from `C01.member_scale`: scaling the distance, rho and
    the bandwidth by the same `c > 0` leaves the membership strength unchanged (any bandwidth,
    including the degenerate `σ = 0`). -/
theorem member_scale {c : ℝ} (hc : 0 < c) (d r σ : ℝ) :
    member realT (c * d) (c * r) (c * σ) = member realT d r σ :=
  C01.member_scale hc

theorem strengthOf_scale {c : ℝ} (hc : 0 < c) (σ : ℝ) (ρ : Ext ℝ) (x : ℝ) :
    strengthOf (c * σ) (scaleExt c ρ) (c * x) = strengthOf σ ρ x := by
  cases ρ with
  | fin r => exact C01.member_scale hc
  | inf => rfl
  | nan => rfl

/-- `C02.dirStrength` with the per-row `(σ, ρ)` read from a given list `sr` instead of being
    computed by `smooth_knn_dist`. -/
noncomputable def dirStrengthWith (sr : List (ℝ × Ext ℝ)) (idx : List (List (Option Nat)))
    (ds : List (List (Option ℝ))) (i j : Nat) : ℝ :=
  if i = j then 0 else
  match idx[i]?, ds[i]?, sr[i]? with
  | some ix, some d, some s =>
    match (ix.zip d).find? (fun p => p.1 == some j) with
    | some (_, some x) => strengthOf s.1 s.2 x
    | _ => 0
  | _, _, _ => 0

theorem find_scaleRow (c : ℝ) (j : Nat) (ix : List (Option Nat)) (d : List (Option ℝ)) :
    (ix.zip (scaleRow c d)).find? (fun p => p.1 == some j)
      = ((ix.zip d).find? (fun p => p.1 == some j)).map (fun p => (p.1, p.2.map (c * ·))) := by
  rw [C01.zip_scaleRow, List.find?_map]
  rfl

/--
  Scaling every finite distance of the table by `c > 0` and every
  per-row `(σ, ρ)` by `c` leaves every directed strength unchanged — for any table (valid or
  not), any list `sr`, every `(i, j)`.
-/
theorem dirStrengthWith_scale {c : ℝ} (hc : 0 < c) (sr : List (ℝ × Ext ℝ))
    (idx : List (List (Option Nat))) (ds : List (List (Option ℝ))) (i j : Nat) :
    dirStrengthWith (scaleSR c sr) idx (scaleTable c ds) i j = dirStrengthWith sr idx ds i j := by
  unfold dirStrengthWith
  rw [scaleTable_getElem?, scaleSR_getElem?]
  refine if_congr Iff.rfl rfl ?_
  cases idx[i]? with
  | none => rfl
  | some ix =>
    cases ds[i]? with
    | none => rfl
    | some d =>
      cases sr[i]? with
      | none => rfl
      | some s =>
        simp only [Option.map_some]
        rw [find_scaleRow]
        cases (ix.zip d).find? (fun p => p.1 == some j) with
        | none => rfl
        | some p =>
          obtain ⟨a, x⟩ := p
          cases x with
          | none => rfl
          | some x =>
            simp only [Option.map_some]
            exact strengthOf_scale hc _ _ _

/--
  For every mix ratio `r` and every `(i, j)` the blended graph value
  `mix r (strength i→j) (strength j→i)` computed from the scaled table with the scaled `(σ, ρ)`
  equals the one computed from the original table.

  Proved here: the invariance of every strength and of the blend, for arbitrary bandwidths.
  Hypothesis (built into the statement through `scaleSR`): the bandwidth and rho used for the
  scaled table are `c` times those used for the original table.  For rho this is a theorem about
  the model's own computation (`C01.rho_scale_row`, `sigmaRho_scale_snd`); for the bandwidth it is
  "the calibration solution scales" (`C01.solution_scales_row`, `calibrated_scale`), NOT a
  statement about the 64-step search, which starts at 1 whatever the scale.
-/
theorem graph_scale_invariant {c : ℝ} (hc : 0 < c) (r : ℝ) (sr : List (ℝ × Ext ℝ))
    (idx : List (List (Option Nat))) (ds : List (List (Option ℝ))) (i j : Nat) :
    mix r (dirStrengthWith (scaleSR c sr) idx (scaleTable c ds) i j)
          (dirStrengthWith (scaleSR c sr) idx (scaleTable c ds) j i)
      = mix r (dirStrengthWith sr idx ds i j) (dirStrengthWith sr idx ds j i) := by
  rw [dirStrengthWith_scale hc, dirStrengthWith_scale hc]

/-- `sr` lists, row by row, the model's own rho and a positive bandwidth that solves the
    calibration equation `Σ_j strength_j = target` exactly (the fixed point `smooth_knn_dist`
    searches for). -/
def Calibrated (tol : ℝ) (lcIdx : Nat) (lcFrac target : ℝ) (sr : List (ℝ × Ext ℝ))
    (ds : List (List (Option ℝ))) : Prop :=
  List.Forall₂ (fun s d => 0 < s.1 ∧ s.2 = rho tol lcIdx lcFrac d
    ∧ psum realT s.2 s.1 d.tail = target) sr ds

/-- **the calibration solution scales** (table form of `C01.solution_scales_row` together with
    `C01.rho_scale_row`): if `sr` is calibrated for the table then `c • sr` is calibrated for the
    scaled table — same tolerance, same target. -/
theorem calibrated_scale {c : ℝ} (hc : 0 < c) (tol : ℝ) (lcIdx : Nat) (lcFrac target : ℝ)
    (sr : List (ℝ × Ext ℝ)) (ds : List (List (Option ℝ)))
    (h : Calibrated tol lcIdx lcFrac target sr ds) :
    Calibrated tol lcIdx lcFrac target (scaleSR c sr) (scaleTable c ds) := by
  unfold Calibrated scaleSR scaleTable at *
  rw [List.forall₂_map_left_iff, List.forall₂_map_right_iff]
  refine h.imp ?_
  rintro s d ⟨h1, h2, h3⟩
  refine ⟨mul_pos hc h1, ?_, ?_⟩
  · rw [C01.rho_scale_row hc, h2]
  · simp only
    rw [C01.scaleRow_tail, ← h3]
    exact C01.psum_scale hc s.1 s.2 d.tail

/--
  With the model's rho and exactly calibrated bandwidths,
  the scaled table has the scaled rho and the scaled bandwidths are exactly calibrated for it, and
  every blended graph value is unchanged.
-/
theorem graph_scale_invariant_calibrated {c : ℝ} (hc : 0 < c) (tol : ℝ) (lcIdx : Nat)
    (lcFrac target : ℝ) (r : ℝ) (sr : List (ℝ × Ext ℝ)) (idx : List (List (Option Nat)))
    (ds : List (List (Option ℝ))) (h : Calibrated tol lcIdx lcFrac target sr ds) :
    Calibrated tol lcIdx lcFrac target (scaleSR c sr) (scaleTable c ds)
    ∧ ∀ i j, mix r (dirStrengthWith (scaleSR c sr) idx (scaleTable c ds) i j)
                   (dirStrengthWith (scaleSR c sr) idx (scaleTable c ds) j i)
           = mix r (dirStrengthWith sr idx ds i j) (dirStrengthWith sr idx ds j i) :=
  ⟨calibrated_scale hc tol lcIdx lcFrac target sr ds h,
    fun i j => graph_scale_invariant hc r sr idx ds i j⟩

/-- one output entry of `compute_membership_strengths` (including the NaN / skipped / self
    encodings) is scale invariant. -/
theorem memberEntry_scale {c : ℝ} (hc : 0 < c) (self : Nat) (σ : ℝ) (ρ : Ext ℝ)
    (p : Option Nat × Option ℝ) :
    memberEntry realT self (c * σ) (scaleExt c ρ) (p.1, p.2.map (c * ·))
      = memberEntry realT self σ ρ p := by
  obtain ⟨a, x⟩ := p
  unfold memberEntry
  cases a with
  | none => rfl
  | some a =>
    refine if_congr Iff.rfl rfl ?_
    cases x with
    | none => cases ρ <;> rfl
    | some x => exact congrArg (fun w => some (a, w)) (C01.memberExt_scale hc x ρ σ)

theorem memberRow_scale {c : ℝ} (hc : 0 < c) (self : Nat) (σ : ℝ) (ρ : Ext ℝ)
    (ix : List (Option Nat)) (d : List (Option ℝ)) :
    memberRow realT false self (c * σ) (scaleExt c ρ) ix (scaleRow c d)
      = memberRow realT false self σ ρ ix d := by
  rw [memberRow_eq, memberRow_eq, C01.zip_scaleRow, List.map_map]
  exact List.map_congr_left fun p _ => memberEntry_scale hc self σ ρ p

section
variable (tol minScale target : ℝ) (lcIdx : Nat) (lcFrac : ℝ) (nIter : Nat)

/-- **the hypothesis about the bandwidth**: for every row of the table, the bandwidth the model
    computes for the scaled row (inside the scaled table) is `c` times the bandwidth it computes
    for the row. -/
def ScaledBandwidths (c : ℝ) (ds : List (List (Option ℝ))) : Prop :=
  ∀ d ∈ ds, (sigmaRho tol minScale target lcIdx lcFrac nIter (scaleTable c ds) (scaleRow c d)).1
    = c * (sigmaRho tol minScale target lcIdx lcFrac nIter ds d).1

/-- the result of the bisection for the scaled row is `c` times its result for the row — the
    part of `ScaledBandwidths` that is genuinely a hypothesis. -/
def ScaledSearch (c : ℝ) (ds : List (List (Option ℝ))) : Prop :=
  ∀ d ∈ ds,
    (bisect realT tol target (rho tol lcIdx lcFrac (scaleRow c d)) (scaleRow c d).tail nIter).mid
      = c * (bisect realT tol target (rho tol lcIdx lcFrac d) d.tail nIter).mid

/-- the mean entering the floor of row `d`. -/
noncomputable def floorMean (ds : List (List (Option ℝ))) (d : List (Option ℝ)) : ℝ :=
  if extPos (rho tol lcIdx lcFrac d) then finiteMean d else finiteMean ds.flatten

end

section
variable {tol minScale target : ℝ} {lcIdx : Nat} {lcFrac : ℝ} {nIter : Nat}

theorem smoothKnn_getElem? (ds : List (List (Option ℝ))) (i : Nat) :
    (smoothKnn realT tol minScale target lcIdx lcFrac nIter ds)[i]?
      = (ds[i]?).map (sigmaRho tol minScale target lcIdx lcFrac nIter ds) := by
  unfold smoothKnn sigmaRho
  simp only [List.getElem?_map]

theorem dirStrength_eq_with (idx : List (List (Option Nat))) (ds : List (List (Option ℝ)))
    (i j : Nat) :
    dirStrength tol minScale target lcIdx lcFrac nIter idx ds i j
      = dirStrengthWith (smoothKnn realT tol minScale target lcIdx lcFrac nIter ds) idx ds i j := by
  unfold dirStrength dirStrengthWith
  rw [smoothKnn_getElem?]
  refine if_congr Iff.rfl rfl ?_
  cases idx[i]? <;> cases ds[i]? <;> rfl

theorem sigmaRho_scale_snd {c : ℝ} (hc : 0 < c) (ds : List (List (Option ℝ)))
    (d : List (Option ℝ)) :
    (sigmaRho tol minScale target lcIdx lcFrac nIter (scaleTable c ds) (scaleRow c d)).2
      = scaleExt c (sigmaRho tol minScale target lcIdx lcFrac nIter ds d).2 :=
  C01.rho_scale_row hc tol lcFrac lcIdx d

/-- the bandwidth of a row: the result of the search, raised to the floor `minScale · mean`. -/
theorem sigmaRho_fst (ds : List (List (Option ℝ))) (d : List (Option ℝ)) :
    (sigmaRho tol minScale target lcIdx lcFrac nIter ds d).1
      = max (bisect realT tol target (rho tol lcIdx lcFrac d) d.tail nIter).mid
          (minScale * floorMean tol lcIdx lcFrac ds d) :=
  C01.smoothKnnRow_fst ..

theorem sigma_eq_floor {ds : List (List (Option ℝ))} {d : List (Option ℝ)}
    (h : 2 ^ nIter < minScale * floorMean tol lcIdx lcFrac ds d) :
    (sigmaRho tol minScale target lcIdx lcFrac nIter ds d).1
      = minScale * floorMean tol lcIdx lcFrac ds d := by
  rw [sigmaRho_fst]
  exact max_eq_right ((C01.bisect_search tol target _ d.tail nIter).mid_le.trans h.le)

theorem floorMean_of_rho_pos {ds : List (List (Option ℝ))} {d : List (Option ℝ)} {ρ : ℝ}
    (h : rho tol lcIdx lcFrac d = .fin ρ) (hρ : 0 < ρ) :
    floorMean tol lcIdx lcFrac ds d = finiteMean d := by
  unfold floorMean
  rw [h]
  exact if_pos ((C01.extPos_fin ρ).2 hρ)

/-- the `MIN_K_DIST_SCALE` floor is homogeneous of degree 1 (proved about the model's code). -/
theorem floorMean_scale {c : ℝ} (hc : 0 < c) (ds : List (List (Option ℝ)))
    (d : List (Option ℝ)) :
    floorMean tol lcIdx lcFrac (scaleTable c ds) (scaleRow c d)
      = c * floorMean tol lcIdx lcFrac ds d := by
  unfold floorMean
  rw [C01.rho_scale_row hc, C01.extPos_scaleExt hc, finiteMean_scaleTable, C01.finiteMean_scale_row]
  split_ifs <;> rfl

theorem smoothKnn_scale {c : ℝ} (hc : 0 < c) {ds : List (List (Option ℝ))}
    (h : ScaledBandwidths tol minScale target lcIdx lcFrac nIter c ds) :
    smoothKnn realT tol minScale target lcIdx lcFrac nIter (scaleTable c ds)
      = scaleSR c (smoothKnn realT tol minScale target lcIdx lcFrac nIter ds) := by
  unfold smoothKnn scaleSR scaleTable
  rw [List.map_map, List.map_map]
  exact List.map_congr_left fun d hd => Prod.ext (h d hd) (sigmaRho_scale_snd hc ds d)

theorem dirStrength_scale {c : ℝ} (hc : 0 < c) (idx : List (List (Option Nat)))
    {ds : List (List (Option ℝ))}
    (h : ScaledBandwidths tol minScale target lcIdx lcFrac nIter c ds) (i j : Nat) :
    dirStrength tol minScale target lcIdx lcFrac nIter idx (scaleTable c ds) i j
      = dirStrength tol minScale target lcIdx lcFrac nIter idx ds i j := by
  rw [dirStrength_eq_with, dirStrength_eq_with, smoothKnn_scale hc h, dirStrengthWith_scale hc]

theorem memberRows_scale {c : ℝ} (hc : 0 < c) (idx : List (List (Option Nat)))
    {ds : List (List (Option ℝ))}
    (h : ScaledBandwidths tol minScale target lcIdx lcFrac nIter c ds) :
    memberRows realT tol minScale target lcIdx lcFrac nIter idx (scaleTable c ds)
      = memberRows realT tol minScale target lcIdx lcFrac nIter idx ds := by
  unfold memberRows
  dsimp only
  rw [smoothKnn_scale hc h]
  -- the scaled table zips to the image of the zipped table; then row by row
  unfold scaleTable scaleSR
  rw [List.zip_map, List.zip_map_right, List.zipIdx_map, List.map_map]
  exact List.map_congr_left fun p _ => memberRow_scale hc p.2 p.1.2.2.1 p.1.2.2.2 p.1.1 p.1.2.1

end

section
variable (tol minScale target : ℝ) (lcIdx : Nat) (lcFrac : ℝ) (nIter : Nat)

/-- rho, the per-row mean, the global mean and the floor are all discharged: `ScaledBandwidths`
    follows from the scaling of the bisection result alone. -/
theorem scaledBandwidths_of_mid {c : ℝ} (hc : 0 < c) (ds : List (List (Option ℝ)))
    (h : ScaledSearch tol target lcIdx lcFrac nIter c ds) :
    ScaledBandwidths tol minScale target lcIdx lcFrac nIter c ds := by
  intro d hd
  rw [sigmaRho_fst, sigmaRho_fst, h d hd, floorMean_scale hc, mul_left_comm,
    ← mul_max_of_nonneg _ _ hc.le]

/-- in the floor-dominated regime (every row's floor `minScale · mean` exceeds the largest value
    `2 ^ nIter` the search can return) the bandwidths of the model scale exactly, for `c ≥ 1`:
    here `ScaledBandwidths` is a theorem about the model's own computation. -/
theorem scaledBandwidths_of_floor {c : ℝ} (hc : 1 ≤ c) (ds : List (List (Option ℝ)))
    (h : ∀ d ∈ ds, 2 ^ nIter < minScale * floorMean tol lcIdx lcFrac ds d) :
    ScaledBandwidths tol minScale target lcIdx lcFrac nIter c ds := by
  have hc0 : 0 < c := lt_of_lt_of_le one_pos hc
  intro d hd
  have h1 := h d hd
  have hpos : 0 < minScale * floorMean tol lcIdx lcFrac ds d :=
    lt_trans (by positivity) h1
  rw [sigma_eq_floor h1, sigma_eq_floor]
  · rw [floorMean_scale hc0]; ring
  · -- the floor of the scaled row is `c ≥ 1` times as large, so it dominates as well
    rw [floorMean_scale hc0, mul_left_comm]
    exact h1.trans_le (le_mul_of_one_le_left hpos.le hc)

/--
  For the model's own graph stage: if the bandwidths computed for
  the scaled table are `c` times those computed for the table (`ScaledBandwidths`; rho, the means
  and the floor need no hypothesis), then the fitted graph of the scaled table *is* the fitted
  graph of the table — the same list of stored triples, and the same failure (`none`, a NaN
  strength) if any.  No validity assumption on the table is needed.
-/
theorem graphOfKnn_scale_invariant {c : ℝ} (hc : 0 < c) (r : ℝ)
    (idx : List (List (Option Nat))) (ds : List (List (Option ℝ)))
    (h : ScaledBandwidths tol minScale target lcIdx lcFrac nIter c ds) :
    graphOfKnn realT tol minScale target lcIdx lcFrac nIter r idx (scaleTable c ds)
      = graphOfKnn realT tol minScale target lcIdx lcFrac nIter r idx ds := by
  unfold graphOfKnn
  rw [memberRows_scale hc idx h]

/-- the blended values of the pipeline, in the form of `C02_pipeline` / `graph_perm_lookup`. -/
theorem graph_scale_lookup {c : ℝ} (hc : 0 < c) (r : ℝ)
    (idx : List (List (Option Nat))) (ds : List (List (Option ℝ)))
    (h : ScaledBandwidths tol minScale target lcIdx lcFrac nIter c ds) (i j : Nat) :
    mix r (dirStrength tol minScale target lcIdx lcFrac nIter idx (scaleTable c ds) i j)
          (dirStrength tol minScale target lcIdx lcFrac nIter idx (scaleTable c ds) j i)
      = mix r (dirStrength tol minScale target lcIdx lcFrac nIter idx ds i j)
          (dirStrength tol minScale target lcIdx lcFrac nIter idx ds j i) := by
  rw [dirStrength_scale hc idx h, dirStrength_scale hc idx h]

end

theorem validTable_scale (c : ℝ) (idx : List (List (Option Nat))) (ds : List (List (Option ℝ)))
    (hv : ValidTable idx ds) : ValidTable idx (scaleTable c ds) := by
  obtain ⟨hlen, k, hrows⟩ := validTable_iff.1 hv
  refine validTable_iff.2 ⟨hlen.trans (List.length_map _).symm, k, ?_⟩
  intro i ix d' hix hd'
  rw [scaleTable_getElem?] at hd'
  obtain ⟨d, hd, rfl⟩ := Option.map_eq_some_iff.1 hd'
  obtain ⟨⟨h1, h2⟩, h3, h4⟩ := hrows i ix d hix hd
  refine ⟨⟨h1, (C01.scaleRow_length c d).trans h2⟩, h3, fun p hp => ?_⟩
  rw [C01.zip_scaleRow, List.mem_map] at hp
  obtain ⟨q, hq, rfl⟩ := hp
  exact (h4 q hq).trans Option.map_eq_none_iff.symm

theorem noNanRho_scale {c : ℝ} (hc : 0 < c) (tol : ℝ) (lcIdx : Nat) (lcFrac : ℝ)
    (ds : List (List (Option ℝ))) (hn : NoNanRho tol lcIdx lcFrac ds) :
    NoNanRho tol lcIdx lcFrac (scaleTable c ds) := by
  refine List.forall_mem_map.2 fun d hd => ?_
  rw [C01.rho_scale_row hc]
  have := hn d hd
  -- only a NaN rho scales to NaN
  cases hρ : rho tol lcIdx lcFrac d with
  | fin r => exact nofun
  | inf => exact nofun
  | nan => exact absurd hρ this

/-- entry form, as in `graph_perm_equivariant`: for a valid table both graph stages succeed and
    store the same entries. -/
theorem graph_scale_entries (tol minScale target : ℝ) (lcIdx : Nat) (lcFrac : ℝ) (nIter : Nat)
    {c : ℝ} (hc : 0 < c) (r : ℝ)
    (idx : List (List (Option Nat))) (ds : List (List (Option ℝ)))
    (hv : ValidTable idx ds) (hn : NoNanRho tol lcIdx lcFrac ds)
    (h : ScaledBandwidths tol minScale target lcIdx lcFrac nIter c ds) :
    ∃ G G', graphOfKnn realT tol minScale target lcIdx lcFrac nIter r idx ds = some G
      ∧ graphOfKnn realT tol minScale target lcIdx lcFrac nIter r idx (scaleTable c ds) = some G'
      ∧ ∀ i j v, (i, j, v) ∈ G ↔ (i, j, v) ∈ G' := by
  have hG := graphOfKnn_eq_some tol minScale target lcIdx lcFrac nIter r idx ds hv hn
  exact ⟨_, _, hG,
    (graphOfKnn_scale_invariant tol minScale target lcIdx lcFrac nIter hc r idx ds h).trans hG,
    fun _ _ _ => Iff.rfl⟩

/-! ### non-vacuity: the 3-point table of C02Pipeline scaled by 2 -/

theorem exDs_scaled :
    scaleTable 2 exDs
      = [[some 0, some 2, none], [some 0, some 2, some 4], [some 0, some 4, none]] := by
  simp only [scaleTable, scaleRow, exDs, List.map_cons, List.map_nil, Option.map_some,
    Option.map_none]
  norm_num

/-- a list of per-row `(σ, ρ)` for the example (rho is the model's: the nearest non-zero
    distance). -/
noncomputable def exSR : List (ℝ × Ext ℝ) := [(1, .fin 1), (1, .fin 1), (1, .fin 2)]

theorem exSR_scaled : scaleSR 2 exSR = [(2, .fin 2), (2, .fin 2), (2, .fin 4)] := by
  simp only [scaleSR, exSR, scaleExt, List.map_cons, List.map_nil]
  norm_num

/-- `dirStrengthWith_scale` / `graph_scale_invariant` on the example, `c = 2`: the hypothesis
    `0 < c` holds, and the invariant value is a genuine strength strictly between 0 and 1
    (`exp(-1)` for the edge 1 → 2, at distance 2 with `ρ = 1`, `σ = 1`), not a trivial `0 = 0`. -/
example :
    (0:ℝ) < 2
    ∧ dirStrengthWith exSR exIdx exDs 1 2 = Real.exp (-1)
    ∧ dirStrengthWith (scaleSR 2 exSR) exIdx (scaleTable 2 exDs) 1 2 = Real.exp (-1)
    ∧ ∀ r i j, mix r (dirStrengthWith (scaleSR 2 exSR) exIdx (scaleTable 2 exDs) i j)
                     (dirStrengthWith (scaleSR 2 exSR) exIdx (scaleTable 2 exDs) j i)
             = mix r (dirStrengthWith exSR exIdx exDs i j) (dirStrengthWith exSR exIdx exDs j i) := by
  have h0 : dirStrengthWith exSR exIdx exDs 1 2 = Real.exp (-1) := by
    -- the lookups by evaluation: row 1 lists point 2 at distance 2, with `σ = 1`, `ρ = 1`
    have e : dirStrengthWith exSR exIdx exDs 1 2 = member realT 2 1 1 := rfl
    rw [e, C01.member_of_lt one_pos one_lt_two]
    norm_num
  refine ⟨by norm_num, h0, ?_, fun r i j => graph_scale_invariant (by norm_num) r _ _ _ i j⟩
  rw [dirStrengthWith_scale (by norm_num), h0]

/-- `Calibrated` is satisfiable (so `calibrated_scale` and `graph_scale_invariant_calibrated` are
    not vacuous): two rows `[self, 1, 2]` and `[self, 2, 4]`, default `local_connectivity = 1`,
    `tol = 1e-5`, `target = 1 + e⁻¹`, bandwidths `1` and `2`. -/
example : Calibrated (1 / 100000) 1 0 (1 + Real.exp (-1)) [(1, .fin 1), (2, .fin 2)]
    [[some 0, some 1, some 2], [some 0, some 2, some 4]] := by
  have htol : (0:ℝ) ≤ 1 / 100000 := by norm_num
  unfold Calibrated
  refine List.Forall₂.cons ⟨one_pos, ?_, ?_⟩ (List.Forall₂.cons ⟨two_pos, ?_, ?_⟩ List.Forall₂.nil)
  · exact (C01.rho_default_nearest htol one_pos _).symm
  · show psum realT (.fin _) _ [_, _] = _
    rw [C01.psum_cons, C01.psum_cons, C01.psum_nil, C01.psumTerm_fin_some, C01.psumTerm_fin_some]
    -- the self term is `1` (not past rho); then arithmetic in the exponent
    simp only [sub_self, lt_irrefl, if_false, realT]
    norm_num
  · exact (C01.rho_default_nearest htol two_pos _).symm
  · show psum realT (.fin _) _ [_, _] = _
    rw [C01.psum_cons, C01.psum_cons, C01.psum_nil, C01.psumTerm_fin_some, C01.psumTerm_fin_some]
    simp only [sub_self, lt_irrefl, if_false, realT]
    norm_num

theorem ex_floorMean (tol : ℝ) (htol : 0 ≤ tol) :
    ∀ d ∈ exDs, (1:ℝ) / 2 ≤ floorMean tol 1 0 exDs d := by
  intro d hd
  simp only [exDs, List.mem_cons, List.not_mem_nil, or_false] at hd
  -- rho is the first non-zero distance, positive in each row, so the row's own mean is used
  rcases hd with rfl | rfl | rfl
  · rw [floorMean_of_rho_pos (C01.rho_default_nearest htol one_pos _) one_pos,
      C01.finiteMean_of_finites (x := 0) (xs := [1]) rfl]
    norm_num
  · rw [floorMean_of_rho_pos (C01.rho_default_nearest htol one_pos _) one_pos,
      C01.finiteMean_of_finites (x := 0) (xs := [1, 2]) rfl]
    norm_num
  · rw [floorMean_of_rho_pos (C01.rho_default_nearest htol two_pos _) two_pos,
      C01.finiteMean_of_finites (x := 0) (xs := [2]) rfl]
    norm_num

/-- `ScaledBandwidths` holds for the model's own computation on the example table scaled by 2,
    default `local_connectivity = 1`, any tolerance `≥ 0`, any target, any iteration count `n`, with
    the floor factor `2 ^ (n + 2)` (the floor-dominated regime): the hypotheses of
    `graphOfKnn_scale_invariant` / `graph_scale_entries` are satisfiable, and the two graph stages
    return the same, successfully computed, graph. -/
example (tol target : ℝ) (htol : 0 ≤ tol) (n : Nat) (r : ℝ) :
    ScaledBandwidths tol (2 ^ (n + 2)) target 1 0 n 2 exDs
    ∧ ValidTable exIdx (scaleTable 2 exDs)
    ∧ ∃ G, graphOfKnn realT tol (2 ^ (n + 2)) target 1 0 n r exIdx exDs = some G
        ∧ graphOfKnn realT tol (2 ^ (n + 2)) target 1 0 n r exIdx (scaleTable 2 exDs) = some G := by
  have hs : ScaledBandwidths tol (2 ^ (n + 2)) target 1 0 n 2 exDs := by
    apply scaledBandwidths_of_floor tol (2 ^ (n + 2)) target 1 0 n (by norm_num)
    intro d hd
    -- the floor mean is at least `1/2`, and `2^n < 2^n * (2^2 * (1/2))`
    refine lt_of_lt_of_le ?_
      (mul_le_mul_of_nonneg_left (ex_floorMean tol htol d hd) (by positivity))
    rw [pow_add, mul_assoc]
    exact lt_mul_of_one_lt_right (by positivity) (by norm_num)
  have hG := graphOfKnn_eq_some tol (2 ^ (n + 2)) target 1 0 n r exIdx exDs exValid
    (noNanRho_integral tol htol 1 Nat.one_pos exDs)
  exact ⟨hs, validTable_scale 2 exIdx exDs exValid, _, hG,
    (graphOfKnn_scale_invariant tol (2 ^ (n + 2)) target 1 0 n (by norm_num) r exIdx exDs hs).trans hG⟩

/-- `ScaledSearch` (hence `scaledBandwidths_of_mid`) is satisfiable for a non-trivial scale only when
    the search result itself scales; the trivial instance `c = 1` always does. -/
example (tol target : ℝ) (lcIdx : Nat) (lcFrac : ℝ) (n : Nat)
    (ds : List (List (Option ℝ))) : ScaledSearch tol target lcIdx lcFrac n 1 ds := by
  intro d _
  have : scaleRow 1 d = d := by simp [scaleRow]
  rw [this, one_mul]

/-! ### the search itself is not scale-equivariant

  `ScaledSearch` is a genuine hypothesis: the loop starts at bandwidth 1 whatever the scale of the
  data.  A family of exact counterexamples for every iteration count (including 64): when the
  target exceeds the number of neighbours (so no bandwidth reaches it) the search doubles for
  ever (`C01.bisect_mid_of_unreachable`), returns `2 ^ n` for the row *and* for the scaled row, and
  `2 ^ n ≠ 2 · 2 ^ n`. -/

/-- **the bisection is not exactly scale-equivariant**: for a row whose target is unreachable the
    search result of the row scaled by 2 is *not* twice the result of the row, at any iteration
    count. -/
theorem not_scaledSearch_of_unreachable (tol target lcFrac : ℝ) (lcIdx n : Nat)
    (ds : List (List (Option ℝ))) (d : List (Option ℝ)) (hd : d ∈ ds)
    (h0 : 0 ≤ tol) (h : (d.tail.length : ℝ) + tol ≤ target) :
    ¬ ScaledSearch tol target lcIdx lcFrac n 2 ds := by
  intro hs
  have h1 := hs d hd
  have hlen : ((scaleRow 2 d).tail.length : ℝ) + tol ≤ target := by
    rw [C01.scaleRow_tail, C01.scaleRow_length]; exact h
  rw [C01.bisect_mid_of_unreachable tol target _ _ h0 hlen,
    C01.bisect_mid_of_unreachable tol target _ _ h0 h] at h1
  have : (0:ℝ) < 2 ^ n := by positivity
  linarith

/-- the hypotheses of `not_scaledSearch_of_unreachable` are satisfiable. -/
example : ([some (0:ℝ), some 1] : List (Option ℝ)) ∈ [[some (0:ℝ), some 1]]
    ∧ (0:ℝ) ≤ 1 / 100000
    ∧ ((([some (0:ℝ), some 1] : List (Option ℝ)).tail.length : ℝ) + 1 / 100000 ≤ 2) := by
  refine ⟨List.mem_singleton_self _, by norm_num, ?_⟩
  -- the tail has one entry
  show ((1 : ℕ) : ℝ) + 1 / 100000 ≤ 2
  norm_num

end C03
end Umap
