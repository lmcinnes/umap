/-
  C16 — categorical supervision attenuates cross-label edges and keeps the graph well formed.

  Model: `Umap.Graph.fastIntersection`, `rowMaxNormalize`, `resetLocalConnectivity`,
  `categoricalIntersection` (umap_.py `fast_intersection`, `reset_local_connectivity`,
  `discrete_metric_simplicial_set_intersection`).

  Everything that does not mention a concrete transcendental function holds over every linear
  ordered field `K` and every record `T : Transc K`; the numeric corollaries are over ℝ with
  `realT`.  The lemmas are grouped by what they use of `K`: the label factor and `fast_intersection`
  as a `Graph.scale` by it (a field), what normalisation and the reset store (the order, only to
  compare with zero and to take a maximum), the ranges and unit entries (the ordered field); each
  group is followed by the theorems of the property that rest on it.
-/
import UmapProofs.RealT
import UmapProps.C04

namespace Umap
namespace C16
open Graph

section
variable {K : Type} [Field K] [LinearOrder K] [IsStrictOrderedRing K]

/-- the label of sample `i`; `none` = unlabelled (`-1` in the code). -/
def labelAt (labels : List (Option Int)) (i : Nat) : Option Int := (labels[i]?).getD none

/-- the factor applied by `fast_intersection` to an entry at position `(i, j)`. -/
def factor (T : Transc K) (labels : List (Option Int)) (ud fd : K) (i j : Nat) : K :=
  match labelAt labels i, labelAt labels j with
  | some a, some b => if a = b then 1 else T.exp (-fd)
  | _, _ => T.exp (-ud)

end

section Factor
variable {K : Type} [Field K]

/-- the branches as the code tests them:
    `if target[i] == -1 or target[j] == -1: … elif target[i] != target[j]: …`. -/
theorem factor_eq (T : Transc K) (labels : List (Option Int)) (ud fd : K) (i j : Nat) :
    factor T labels ud fd i j =
      if labelAt labels i = none ∨ labelAt labels j = none then T.exp (-ud)
      else if labelAt labels i = labelAt labels j then 1 else T.exp (-fd) := by
  unfold factor
  rcases labelAt labels i with _ | a <;> rcases labelAt labels j with _ | b <;> simp

theorem factor_same (T : Transc K) (labels : List (Option Int)) (ud fd : K) (i j : Nat) (a : Int)
    (hi : labelAt labels i = some a) (hj : labelAt labels j = some a) :
    factor T labels ud fd i j = 1 := by
  rw [factor_eq, hi, hj]; simp

/-- both labels known and different: `exp(-far_dist)`. -/
theorem factor_diff (T : Transc K) (labels : List (Option Int)) (ud fd : K) (i j : Nat) (a b : Int)
    (hi : labelAt labels i = some a) (hj : labelAt labels j = some b) (hab : a ≠ b) :
    factor T labels ud fd i j = T.exp (-fd) := by
  rw [factor_eq, hi, hj]; simp [hab]

/-- either label unknown: `exp(-unknown_dist)`. -/
theorem factor_unknown (T : Transc K) (labels : List (Option Int)) (ud fd : K) (i j : Nat)
    (h : labelAt labels i = none ∨ labelAt labels j = none) :
    factor T labels ud fd i j = T.exp (-ud) := by
  rw [factor_eq, if_pos h]

/-- what holds of the three possible values holds of the factor. -/
theorem factor_elim {T : Transc K} {labels : List (Option Int)} {ud fd : K} {P : K → Prop}
    (h1 : P 1) (hf : P (T.exp (-fd))) (hu : P (T.exp (-ud))) (i j : Nat) :
    P (factor T labels ud fd i j) := by
  unfold factor
  split
  · split
    exacts [h1, hf]
  · exact hu

theorem labelAt_map (σ : Int → Int) (labels : List (Option Int)) (i : Nat) :
    labelAt (labels.map (Option.map σ)) i = (labelAt labels i).map σ := by
  unfold labelAt
  rw [List.getElem?_map]
  cases labels[i]? <;> rfl

theorem factor_renaming (T : Transc K) (σ : Int → Int) (hσ : Function.Injective σ)
    (labels : List (Option Int)) (ud fd : K) (i j : Nat) :
    factor T (labels.map (Option.map σ)) ud fd i j = factor T labels ud fd i j := by
  simp only [factor_eq, labelAt_map, Option.map_eq_none_iff, (Option.map_injective hσ).eq_iff]

/-- `fast_intersection` multiplies every stored value by the `factor` of its position. -/
theorem fastIntersection_eq_scale (T : Transc K) (labels : List (Option Int)) (ud fd : K)
    (A : Coo K) : fastIntersection T labels ud fd A = scale (factor T labels ud fd) A := by
  unfold fastIntersection scale
  apply List.map_congr_left
  rintro ⟨i, j, v⟩ _
  simp only [factor, labelAt]
  rcases labels[i]? with _ | _ | a <;> rcases labels[j]? with _ | _ | b <;>
    simp only [Option.getD_none, Option.getD_some]
  -- both labels known: the code's `==` against the `=` of `factor`
  by_cases hab : a = b
  · rw [if_pos (beq_iff_eq.2 hab), if_pos hab, mul_one]
  · rw [if_neg (mt beq_iff_eq.1 hab), if_neg hab]

theorem mem_fastIntersection {T : Transc K} {labels : List (Option Int)} {ud fd : K} {A : Coo K}
    {i j : Nat} {w : K} :
    (i, j, w) ∈ fastIntersection T labels ud fd A
      ↔ ∃ v, (i, j, v) ∈ A ∧ w = v * factor T labels ud fd i j := by
  rw [fastIntersection_eq_scale]
  exact mem_scale _ A i j w

/-- the matrix value is scaled by the same factor (duplicates share their position). -/
theorem lookup_fastIntersection (T : Transc K) (labels : List (Option Int)) (ud fd : K)
    (A : Coo K) (i j : Nat) :
    lookup (fastIntersection T labels ud fd A) i j = lookup A i j * factor T labels ud fd i j := by
  rw [fastIntersection_eq_scale]
  exact lookup_scale _ A i j

theorem fast_noDup (T : Transc K) (labels : List (Option Int)) (ud fd : K) (A : Coo K)
    (hA : NoDup A) : NoDup (fastIntersection T labels ud fd A) := by
  rw [fastIntersection_eq_scale]
  exact noDup_scale _ hA

/-- with `exp(-far_dist) = 0` every cross-label entry of `fast_intersection` is `0`. -/
theorem full_weight_zero (T : Transc K) (labels : List (Option Int)) (ud fd : K) (A : Coo K)
    (hexp : T.exp (-fd) = 0) (i j : Nat) (w : K) (a b : Int)
    (h : (i, j, w) ∈ fastIntersection T labels ud fd A)
    (hi : labelAt labels i = some a) (hj : labelAt labels j = some b) (hab : a ≠ b) : w = 0 := by
  rw [mem_fastIntersection] at h
  obtain ⟨v, _, rfl⟩ := h
  rw [factor_diff T labels ud fd i j a b hi hj hab, hexp, mul_zero]

end Factor

section
variable {K : Type} [Field K] [LinearOrder K] [IsStrictOrderedRing K]

/-- the factor only depends on the unordered pair. -/
theorem factor_symm (T : Transc K) (labels : List (Option Int)) (ud fd : K) (i j : Nat) :
    factor T labels ud fd i j = factor T labels ud fd j i := by
  simp only [factor_eq, @or_comm (labelAt labels i = none),
    @eq_comm _ (labelAt labels i) (labelAt labels j)]

/-- `fast_intersection` multiplies every stored triple by `factor`. -/
theorem attenuate_factor (T : Transc K) (labels : List (Option Int)) (ud fd : K) (A : Coo K) :
    fastIntersection T labels ud fd A
      = A.map (fun (i, j, v) => (i, j, v * factor T labels ud fd i j)) :=
  fastIntersection_eq_scale T labels ud fd A

/-- stored positions are untouched by `fast_intersection`. -/
theorem fast_positions (T : Transc K) (labels : List (Option Int)) (ud fd : K) (A : Coo K) :
    positions (fastIntersection T labels ud fd A) = positions A := by
  rw [fastIntersection_eq_scale]
  exact positions_scale _ A

/-- an injective renaming of the class labels (unlabelled stays
    unlabelled) does not change the result. -/
theorem label_renaming_invariant (T : Transc K) (σ : Int → Int) (hσ : Function.Injective σ)
    (labels : List (Option Int)) (ud fd : K) (A : Coo K) :
    fastIntersection T (labels.map (Option.map σ)) ud fd A = fastIntersection T labels ud fd A := by
  rw [fastIntersection_eq_scale, fastIntersection_eq_scale,
    funext₂ (factor_renaming T σ hσ labels ud fd)]

theorem categorical_renaming_invariant (T : Transc K) (σ : Int → Int) (hσ : Function.Injective σ)
    (labels : List (Option Int)) (ud fd : K) (A : Coo K) :
    categoricalIntersection T (labels.map (Option.map σ)) ud fd A
      = categoricalIntersection T labels ud fd A := by
  unfold categoricalIntersection
  rw [label_renaming_invariant T σ hσ]

end

/-! #### over ℝ: the defaults of `discrete_metric_simplicial_set_intersection`
  (`unknown_dist = 1`, `far_dist = 2.5 / (1 - target_weight)`) -/

/-- cross-label entries are multiplied by `exp(-2.5/(1-w))` (relative to same-label entries,
    whose factor is `1`). -/
theorem cross_label_factor_real (labels : List (Option Int)) (w : ℝ) (i j i' j' : Nat) (a b c : Int)
    (hi : labelAt labels i = some a) (hj : labelAt labels j = some b) (hab : a ≠ b)
    (hi' : labelAt labels i' = some c) (hj' : labelAt labels j' = some c) :
    factor realT labels 1 (2.5 / (1 - w)) i j / factor realT labels 1 (2.5 / (1 - w)) i' j'
      = Real.exp (-(2.5 / (1 - w))) := by
  rw [factor_diff realT labels _ _ i j a b hi hj hab, factor_same realT labels _ _ i' j' c hi' hj',
    div_one]
  rfl

/-- entries touching an unlabelled sample are multiplied by `exp(-1)`. -/
theorem unlabelled_factor_real (labels : List (Option Int)) (fd : ℝ) (i j : Nat)
    (h : labelAt labels i = none ∨ labelAt labels j = none) :
    factor realT labels 1 fd i j = Real.exp (-1) := by
  rw [factor_unknown realT labels 1 fd i j h]; rfl

/-- for every target weight `w ∈ [0, 1)` the three factors are strictly ordered:
    cross-label `<` unlabelled `<` same-label `= 1`, and all are positive. -/
theorem factor_order_real (w : ℝ) (hw0 : 0 ≤ w) (hw1 : w < 1) :
    0 < Real.exp (-(2.5 / (1 - w))) ∧ Real.exp (-(2.5 / (1 - w))) < Real.exp (-1)
      ∧ Real.exp (-1) < 1 := by
  refine ⟨Real.exp_pos _, Real.exp_lt_exp.2 (neg_lt_neg ?_),
    Real.exp_lt_one_iff.2 (neg_lt_zero.2 one_pos)⟩
  -- `1 < 2.5 / (1 - w)` since `0 < 1 - w ≤ 1`
  exact (one_lt_div (sub_pos.2 hw1)).2 ((sub_le_self 1 hw0).trans_lt (by norm_num))

theorem factor_pos_real (labels : List (Option Int)) (ud fd : ℝ) (i j : Nat) :
    0 < factor realT labels ud fd i j :=
  factor_elim one_pos (Real.exp_pos _) (Real.exp_pos _) i j

section Stored
variable {K : Type} [Field K] [LinearOrder K]

/-- the maximum absolute stored value of row `i`. -/
def rowMax (A : Coo K) (i : Nat) : K := maxL 0 ((rowOf A i).map (fun p => absV p.2))

/-- the factor applied to row `i` by `normalize(norm="max")`. -/
def rowScale (A : Coo K) (i : Nat) : K := if rowMax A i = 0 then 1 else (rowMax A i)⁻¹

theorem rowMax_nonneg (A : Coo K) (i : Nat) : 0 ≤ rowMax A i := maxL_ge_init _ _

theorem rowMaxNormalize_eq (A : Coo K) :
    rowMaxNormalize A = scale (fun i _ => rowScale A i) A := by
  unfold rowMaxNormalize scale
  apply List.map_congr_left
  rintro ⟨i, j, v⟩ _
  show (if isZero (rowMax A i) then (i, j, v) else (i, j, v / rowMax A i))
    = (i, j, v * rowScale A i)
  unfold rowScale
  by_cases h : rowMax A i = 0
  · rw [if_pos ((isZero_iff _).2 h), if_pos h, mul_one]
  · have : ¬ isZero (rowMax A i) = true := fun hc => h ((isZero_iff _).1 hc)
    rw [if_neg this, if_neg h, div_eq_mul_inv]

theorem lookup_rowMaxNormalize (A : Coo K) (i j : Nat) :
    lookup (rowMaxNormalize A) i j = lookup A i j * rowScale A i := by
  rw [rowMaxNormalize_eq]
  exact lookup_scale _ A i j

theorem mem_rowMaxNormalize {A : Coo K} {i j : Nat} {w : K} :
    (i, j, w) ∈ rowMaxNormalize A ↔ ∃ v, (i, j, v) ∈ A ∧ w = v * rowScale A i := by
  rw [rowMaxNormalize_eq]
  exact mem_scale _ A i j w

theorem rowMaxNormalize_noDup (A : Coo K) (hA : NoDup A) : NoDup (rowMaxNormalize A) := by
  rw [rowMaxNormalize_eq]
  exact noDup_scale _ hA

theorem mem_resetLocalConnectivity {A : Coo K} {i j : Nat} {v : K} :
    (i, j, v) ∈ resetLocalConnectivity A ↔
      v = mix 1 (lookup (rowMaxNormalize A) i j) (lookup (rowMaxNormalize A) j i) ∧ v ≠ 0 :=
  mem_symmetrize 1 _ i j v

/-- a stored entry of the result has a non-zero value of `A` in one direction or the other
    (row-max normalisation multiplies `A(i, j)` by `rowScale A i`). -/
theorem reset_support_lookup {A : Coo K} {i j : Nat} {v : K}
    (h : (i, j, v) ∈ resetLocalConnectivity A) : lookup A i j ≠ 0 ∨ lookup A j i ≠ 0 :=
  (support_of_mem_symmetrize h).imp
    (fun h1 => left_ne_zero_of_mul (lookup_rowMaxNormalize A i j ▸ h1))
    (fun h1 => left_ne_zero_of_mul (lookup_rowMaxNormalize A j i ▸ h1))

theorem reset_support (A : Coo K) (i j : Nat) (v : K) (h : (i, j, v) ∈ resetLocalConnectivity A) :
    (∃ u, (i, j, u) ∈ A) ∨ (∃ u, (j, i, u) ∈ A) :=
  (reset_support_lookup h).imp (lookup_ne_zero_mem A i j) (lookup_ne_zero_mem A j i)

theorem supervised_support_factor (T : Transc K) (labels : List (Option Int)) (ud fd : K)
    (A : Coo K) (i j : Nat) (v : K) (h : (i, j, v) ∈ categoricalIntersection T labels ud fd A) :
    (lookup A i j ≠ 0 ∧ factor T labels ud fd i j ≠ 0)
      ∨ (lookup A j i ≠ 0 ∧ factor T labels ud fd j i ≠ 0) := by
  have key : ∀ a b, lookup (elimZeros (fastIntersection T labels ud fd A)) a b ≠ 0 →
      lookup A a b ≠ 0 ∧ factor T labels ud fd a b ≠ 0 := fun a b h1 => by
    -- the matrix fed to the reset is `A(a,b) · factor(a,b)`
    rw [lookup_elimZeros, lookup_fastIntersection] at h1
    exact ⟨left_ne_zero_of_mul h1, right_ne_zero_of_mul h1⟩
  exact (reset_support_lookup h).imp (key i j) (key j i)

def NonNeg (A : Coo K) : Prop := ∀ t ∈ A, 0 ≤ t.2.2

theorem elimZeros_nonNeg (A : Coo K) (hA : NonNeg A) : NonNeg (elimZeros A) :=
  fun t ht => hA t ((mem_elimZeros A t).1 ht).1

end Stored

section
variable {K : Type} [Field K] [LinearOrder K] [IsStrictOrderedRing K]

/-- the support of the supervised graph is contained in the
    symmetrised support of the unsupervised one (no hypothesis on `A`, `T` or the labels). -/
theorem supervised_support_subset (T : Transc K) (labels : List (Option Int)) (ud fd : K)
    (A : Coo K) (i j : Nat) (v : K) (h : (i, j, v) ∈ categoricalIntersection T labels ud fd A) :
    (lookup A i j ≠ 0 ∨ lookup A j i ≠ 0) ∧ (i, j) ∈ positions (A ++ transposeC A) := by
  have hs : lookup A i j ≠ 0 ∨ lookup A j i ≠ 0 :=
    (supervised_support_factor T labels ud fd A i j v h).imp And.left And.left
  exact ⟨hs, (mem_positions_symm A i j).2
    (hs.imp (lookup_ne_zero_mem A i j) (lookup_ne_zero_mem A j i))⟩

theorem supervised_symm (T : Transc K) (labels : List (Option Int)) (ud fd : K)
    (A : Coo K) (i j : Nat) (v : K) (h : (i, j, v) ∈ categoricalIntersection T labels ud fd A) :
    (j, i, v) ∈ categoricalIntersection T labels ud fd A :=
  C02.symmetric 1 _ i j v h

theorem rowScale_ne_zero (A : Coo K) (i : Nat) : rowScale A i ≠ 0 := by
  unfold rowScale
  split_ifs with h
  · exact one_ne_zero
  · exact inv_ne_zero h

theorem abs_le_rowMax {A : Coo K} {i j : Nat} {v : K} (h : (i, j, v) ∈ A) : |v| ≤ rowMax A i :=
  le_maxL _ _ _ (List.mem_map.2 ⟨(j, v), mem_rowOf.2 h, absV_eq_abs v⟩)

theorem rowMax_attained {A : Coo K} {i : Nat} (h : rowMax A i ≠ 0) :
    ∃ j v, (i, j, v) ∈ A ∧ |v| = rowMax A i := by
  rcases maxL_mem 0 ((rowOf A i).map (fun p => absV p.2)) with h0 | hm
  · exact absurd h0 h
  · obtain ⟨⟨j, v⟩, hp, hv⟩ := List.mem_map.1 hm
    exact ⟨j, v, mem_rowOf.1 hp, (absV_eq_abs v).symm.trans hv⟩

theorem rowMaxNormalize_range {A : Coo K} (hA : NonNeg A) {i j : Nat} {w : K}
    (h : (i, j, w) ∈ rowMaxNormalize A) : 0 ≤ w ∧ w ≤ 1 := by
  obtain ⟨v, hv, rfl⟩ := mem_rowMaxNormalize.1 h
  have h0 : 0 ≤ v := hA _ hv
  have hm : v ≤ rowMax A i := (le_abs_self v).trans (abs_le_rowMax hv)
  unfold rowScale
  split_ifs with hz
  · rw [mul_one]; exact ⟨h0, (hz ▸ hm).trans zero_le_one⟩
  · rw [← div_eq_mul_inv]
    exact ⟨div_nonneg h0 (rowMax_nonneg A i), div_le_one_of_le₀ hm (rowMax_nonneg A i)⟩

theorem rowMaxNormalize_unit {A : Coo K} (hA : NonNeg A) {i j0 : Nat} {v0 : K}
    (h0 : (i, j0, v0) ∈ A) (hpos : 0 < v0) : ∃ j, (i, j, 1) ∈ rowMaxNormalize A := by
  have hm : v0 ≤ rowMax A i := (le_abs_self v0).trans (abs_le_rowMax h0)
  have hne : rowMax A i ≠ 0 := (hpos.trans_le hm).ne'
  -- the entry that attains the row maximum becomes `1`
  obtain ⟨j, v, hv, he⟩ := rowMax_attained hne
  refine ⟨j, mem_rowMaxNormalize.2 ⟨v, hv, ?_⟩⟩
  have he' : v = rowMax A i := (abs_of_nonneg (hA _ hv)).symm.trans he
  rw [rowScale, if_neg hne, he', mul_inv_cancel₀ hne]

/-- `normalize(norm="max")` on non-negative stored values: every stored entry ends in `[0, 1]`, and a
    row with a positive entry gets an entry equal to `1` (stored triples, duplicates allowed). -/
theorem rowmax_normalized (A : Coo K) (hA : NonNeg A) :
    (∀ i j v, (i, j, v) ∈ rowMaxNormalize A → 0 ≤ v ∧ v ≤ 1)
    ∧ (∀ i j0 v0, (i, j0, v0) ∈ A → 0 < v0 → ∃ j, (i, j, 1) ∈ rowMaxNormalize A) :=
  ⟨fun _ _ _ h => rowMaxNormalize_range hA h, fun _ _ _ h0 hp => rowMaxNormalize_unit hA h0 hp⟩

theorem rowMaxNormalize_unitValued (A : Coo K) (hA : NonNeg A) (hd : NoDup A) :
    C02.UnitValued (rowMaxNormalize A) :=
  C04.unitValued_of_stored _ (rowMaxNormalize_noDup A hd) fun _ ht => rowMaxNormalize_range hA ht

theorem union_keeps_one (b : K) : mix 1 1 b = 1 := by unfold mix; ring

theorem union_keeps_one' (a : K) : mix 1 a 1 = 1 := by unfold mix; ring

/-- a unit value of the matrix survives the union with the
    transpose as a stored unit entry (in both orientations). -/
theorem nonisolated_has_unit_edge (N : Coo K) (i j : Nat) (h : lookup N i j = 1) :
    (i, j, 1) ∈ unionTranspose N ∧ (j, i, 1) ∈ unionTranspose N := by
  have hm : (1 : K) = mix 1 (lookup N i j) (lookup N j i) := by rw [h, union_keeps_one]
  have := (mem_symmetrize 1 N i j 1).2 ⟨hm, one_ne_zero⟩
  exact ⟨this, C02.symmetric 1 N i j 1 this⟩

theorem unionTranspose_dominates {N : Coo K} (hN : C02.UnitValued N) {i j : Nat} {v : K}
    (h : (i, j, v) ∈ unionTranspose N) :
    v = lookup N i j + lookup N j i - lookup N i j * lookup N j i
      ∧ lookup N i j ≤ v ∧ lookup N j i ≤ v := by
  obtain ⟨hv, _⟩ := C02.entry_formula 1 N i j v h
  exact ⟨by rw [hv, mix_one], hv ▸ le_mix_one_left (hN i j).2 (hN j i).1,
    hv ▸ le_mix_one_right (hN i j).1 (hN j i).2⟩

theorem unionTranspose_keeps_positive {N : Coo K} (hN : C02.UnitValued N) (hd : NoDup N) {i j : Nat} {u : K}
    (h : (i, j, u) ∈ N) (hu : 0 < u) :
    ∃ v, (i, j, v) ∈ unionTranspose N ∧ (j, i, v) ∈ unionTranspose N ∧ u ≤ v ∧ v ≤ 1 := by
  have hu' : u ≤ mix 1 (lookup N i j) (lookup N j i) := by
    rw [← lookup_of_mem_nodup N hd i j u h]; exact le_mix_one_left (hN i j).2 (hN j i).1
  have hmem := (mem_symmetrize 1 N i j _).2 ⟨rfl, (hu.trans_le hu').ne'⟩
  exact ⟨_, hmem, C02.symmetric 1 N i j _ hmem, hu',
    mix_le_one le_rfl (hN i j).1 (hN i j).2 (hN j i).1 (hN j i).2⟩

theorem reset_unit_edge (A : Coo K) (hA : NonNeg A) (hd : NoDup A) (i j0 : Nat) (v0 : K)
    (h0 : (i, j0, v0) ∈ A) (hpos : 0 < v0) :
    ∃ j, (i, j, 1) ∈ rowMaxNormalize A
      ∧ (i, j, 1) ∈ resetLocalConnectivity A ∧ (j, i, 1) ∈ resetLocalConnectivity A := by
  obtain ⟨j, hj⟩ := rowMaxNormalize_unit hA h0 hpos
  exact ⟨j, hj, nonisolated_has_unit_edge _ i j
    (lookup_of_mem_nodup _ (rowMaxNormalize_noDup A hd) i j 1 hj)⟩

theorem reset_range (A : Coo K) (hA : NonNeg A) (hd : NoDup A) (i j : Nat) (v : K)
    (h : (i, j, v) ∈ resetLocalConnectivity A) : 0 < v ∧ v ≤ 1 := by
  have := C02.C02_graph_wellformed 1 zero_le_one (le_refl _) _
    (rowMaxNormalize_unitValued A hA hd) i j v h
  exact ⟨this.2.1, this.2.2.1⟩

/-- with `exp(-far_dist) = 0` the cross-label entries of `fast_intersection` vanish
    (`full_weight_zero`), so `eliminate_zeros` drops them … -/
theorem full_weight_dropped (T : Transc K) (labels : List (Option Int)) (ud fd : K) (A : Coo K)
    (hexp : T.exp (-fd) = 0) (i j : Nat) (w : K) (a b : Int)
    (hi : labelAt labels i = some a) (hj : labelAt labels j = some b) (hab : a ≠ b) :
    (i, j, w) ∉ elimZeros (fastIntersection T labels ud fd A) := by
  intro h
  obtain ⟨h1, hne⟩ := (mem_elimZeros _ _).1 h
  exact hne (full_weight_zero T labels ud fd A hexp i j w a b h1 hi hj hab)

/-- … and no stored entry of the supervised graph joins two samples
    with different known labels (the transposed contribution is attenuated by the same factor:
    `factor_symm`). -/
theorem full_weight_separates (T : Transc K) (labels : List (Option Int)) (ud fd : K) (A : Coo K)
    (hexp : T.exp (-fd) = 0) (i j : Nat) (v : K) (a b : Int)
    (h : (i, j, v) ∈ categoricalIntersection T labels ud fd A)
    (hi : labelAt labels i = some a) (hj : labelAt labels j = some b) : a = b := by
  by_contra hab
  rcases supervised_support_factor T labels ud fd A i j v h with h1 | h1
  · exact h1.2 (by rw [factor_diff T labels ud fd i j a b hi hj hab, hexp])
  · exact h1.2 (by rw [factor_diff T labels ud fd j i b a hj hi (Ne.symm hab), hexp])

theorem nonNeg_scale {f : Nat → Nat → K} (hf : ∀ i j, 0 ≤ f i j) {A : Coo K} (h : NonNeg A) :
    NonNeg (scale f A) := by
  rintro ⟨i, j, w⟩ ht
  obtain ⟨v, hv, rfl⟩ := (mem_scale f A i j w).1 ht
  exact mul_nonneg (h _ hv) (hf i j)

theorem fast_nonNeg (T : Transc K) (labels : List (Option Int)) (ud fd : K) (A : Coo K)
    (hA : NonNeg A) (hu : 0 ≤ T.exp (-ud)) (hf : 0 ≤ T.exp (-fd)) :
    NonNeg (fastIntersection T labels ud fd A) := by
  rw [fastIntersection_eq_scale]
  exact nonNeg_scale (factor_elim zero_le_one hf hu) hA

/-- `hu`, `hf`: all that is used of `exp`; over ℝ they hold because `exp > 0`. -/
theorem supervised_unit_rowmax (T : Transc K) (labels : List (Option Int)) (ud fd : K) (A : Coo K)
    (hA : NonNeg A) (hd : NoDup A) (hu : 0 ≤ T.exp (-ud)) (hf : 0 ≤ T.exp (-fd)) :
    (∀ i j v, (i, j, v) ∈ categoricalIntersection T labels ud fd A → 0 < v ∧ v ≤ 1)
    ∧ (∀ i j0 v0, (i, j0, v0) ∈ A → 0 < v0 * factor T labels ud fd i j0 →
        ∃ j, (i, j, 1) ∈ categoricalIntersection T labels ud fd A) := by
  have hN := elimZeros_nonNeg _ (fast_nonNeg T labels ud fd A hA hu hf)
  have hD := noDup_elimZeros (fast_noDup T labels ud fd A hd)
  refine ⟨reset_range _ hN hD, ?_⟩
  intro i j0 v0 h0 hpos
  obtain ⟨j, _, hj, _⟩ := reset_unit_edge _ hN hD i j0 (v0 * factor T labels ud fd i j0)
    ((mem_elimZeros _ _).2 ⟨mem_fastIntersection.2 ⟨v0, h0, rfl⟩,
      hpos.ne'⟩) hpos
  exact ⟨j, hj⟩

end

/-- over ℝ (where `exp > 0`): every sample with a positive unsupervised edge keeps a unit edge
    in the supervised graph, whatever the labels. -/
theorem supervised_unit_rowmax_real (labels : List (Option Int)) (ud fd : ℝ) (A : Coo ℝ)
    (hA : NonNeg A) (hd : NoDup A) (i j0 : Nat) (v0 : ℝ) (h0 : (i, j0, v0) ∈ A) (hpos : 0 < v0) :
    ∃ j, (i, j, 1) ∈ categoricalIntersection realT labels ud fd A :=
  (supervised_unit_rowmax realT labels ud fd A hA hd (le_of_lt (Real.exp_pos _))
    (le_of_lt (Real.exp_pos _))).2 i j0 v0 h0 (mul_pos hpos (factor_pos_real labels ud fd i j0))

/-- a toy `Transc ℚ`: `exp x = 1/(1-x)` for `-100 < x ≤ 0`, underflowing to `0` below `-100`. -/
def ratT : Transc ℚ where
  exp := fun x => if x ≤ -100 then 0 else 1 / (1 - x)
  log := id
  sqrt := id
  pow := fun x _ => x
  sin := id
  cos := id
  asin := id
  acosh := id
  trunc := fun _ => 0
  ofInt := fun z => (z : ℚ)

/-- samples 0,1 in class 7; sample 2 in class 9; sample 3 unlabelled. -/
def exLabels : List (Option Int) := [some 7, some 7, some 9, none]

def exA : Coo ℚ := [(0, 1, 1), (0, 2, 1/2), (1, 0, 1/4), (2, 1, 1), (3, 0, 1), (2, 3, 1/2)]

example : fastIntersection ratT exLabels 1 4 exA
    = [(0, 1, 1), (0, 2, 1/10), (1, 0, 1/4), (2, 1, 1/5), (3, 0, 1/2), (2, 3, 1/4)] := by
  decide +kernel

-- the hypotheses of `supervised_unit_rowmax` hold on it
example : NonNeg exA := by unfold NonNeg; decide +kernel
example : NoDup exA := by unfold NoDup; decide +kernel
example : (0 : ℚ) ≤ ratT.exp (-1) ∧ (0 : ℚ) ≤ ratT.exp (-4) := by decide +kernel

-- the supervised graph: symmetric, the (0,1) edge keeps weight 1, the cross-label edge (0,2) is
-- attenuated, row 2 regains a unit entry after renormalisation
example : (0, 1, (1:ℚ)) ∈ categoricalIntersection ratT exLabels 1 4 exA := by decide +kernel
example : (1, 0, (1:ℚ)) ∈ categoricalIntersection ratT exLabels 1 4 exA := by decide +kernel
example : (0, 2, (1/10:ℚ)) ∈ categoricalIntersection ratT exLabels 1 4 exA := by decide +kernel
example : (2, 3, (1:ℚ)) ∈ categoricalIntersection ratT exLabels 1 4 exA := by decide +kernel

-- `full_weight_separates`: the hypothesis is satisfiable, and then the 0–2 and 1–2 edges vanish
example : ratT.exp (-(1000:ℚ)) = 0 := by decide +kernel
example : categoricalIntersection ratT exLabels 1 1000 exA
    = [(0, 1, 1), (1, 0, 1), (3, 0, 1), (2, 3, 1), (0, 3, 1), (3, 2, 1)] := by decide +kernel

-- `label_renaming_invariant` on an instance
example : fastIntersection ratT (exLabels.map (Option.map (fun z => z + 5))) 1 4 exA
    = fastIntersection ratT exLabels 1 4 exA := by decide +kernel

-- `rowmax_normalized` on an instance: row 0 of `[(0,1,1/2),(0,2,1/4)]` becomes `1, 1/2`
example : rowMaxNormalize ([(0, 1, 1/2), (0, 2, 1/4), (1, 0, 0)] : Coo ℚ)
    = [(0, 1, 1), (0, 2, 1/2), (1, 0, 0)] := by decide +kernel

-- `supervised_unit_rowmax_real`: the hypotheses are satisfiable over ℝ
example : ∃ j, (0, j, (1:ℝ)) ∈
    categoricalIntersection realT [some 1, some 2] 1 5 [(0, 1, (1/2:ℝ))] := by
  have hh : (0:ℝ) < 1/2 := one_half_pos
  apply supervised_unit_rowmax_real _ _ _ _ _ _ 0 1 (1/2)
  · exact List.mem_cons_self ..
  · exact hh
  · intro t ht
    rw [List.mem_singleton.1 ht]
    exact hh.le
  · exact List.pairwise_singleton _ _

end C16
end Umap
