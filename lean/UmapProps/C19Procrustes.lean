/-
  C19 (Procrustes part) — the pre-alignment `procrustes_align` of AlignedUMAP is rigid.

  aligned_umap.py:
      U, S, V = np.linalg.svd(M);  R = U @ V;  return embedding_to_align @ R
  The orthogonality of the SVD factors `U`, `V` (`V` is numpy's `Vh`) is the assumed contract of
  the external call.  Then `R = U V` is orthogonal and right-multiplication by `R` preserves all
  squared distances between rows: the aligned embedding is a rotation / reflection of the
  original one.
-/
import Mathlib.Data.Real.Basic
import Mathlib.LinearAlgebra.Matrix.Notation
import Mathlib.Tactic.NormNum

namespace Umap
namespace C19
open Matrix

variable {d : Nat}

theorem procrustes_R_orthogonal (U V : Matrix (Fin d) (Fin d) ℝ)
    (hU : U * Uᵀ = 1) (hV : V * Vᵀ = 1) : (U * V) * (U * V)ᵀ = 1 := by
  rw [transpose_mul, Matrix.mul_assoc, ← Matrix.mul_assoc V, hV, Matrix.one_mul, hU]

theorem procrustes_R_orthogonal' (U V : Matrix (Fin d) (Fin d) ℝ)
    (hU : Uᵀ * U = 1) (hV : Vᵀ * V = 1) : (U * V)ᵀ * (U * V) = 1 := by
  rw [transpose_mul, Matrix.mul_assoc, ← Matrix.mul_assoc Uᵀ, hU, Matrix.one_mul, hV]

theorem vecMul_orthogonal_inner (R : Matrix (Fin d) (Fin d) ℝ) (hR : R * Rᵀ = 1)
    (x y : Fin d → ℝ) : (x ᵥ* R) ⬝ᵥ (y ᵥ* R) = x ⬝ᵥ y := by
  rw [← dotProduct_mulVec, ← mulVec_transpose R y, mulVec_mulVec, hR, one_mulVec]

/-- (only the two "row" orthogonality facts are needed) -/
theorem procrustes_rigid' (U V : Matrix (Fin d) (Fin d) ℝ)
    (hU : U * Uᵀ = 1) (hV : V * Vᵀ = 1) (x y : Fin d → ℝ) :
    (x ᵥ* (U * V) - y ᵥ* (U * V)) ⬝ᵥ (x ᵥ* (U * V) - y ᵥ* (U * V)) = (x - y) ⬝ᵥ (x - y) := by
  rw [← sub_vecMul]
  exact vecMul_orthogonal_inner _ (procrustes_R_orthogonal U V hU hV) _ _

/--
  With `U`, `V` orthogonal (the `np.linalg.svd` contract) and
  `R := U * V`, squared distances between rows of `embedding_to_align @ R` equal those between the
  rows of `embedding_to_align`.
-/
theorem procrustes_rigid (U V : Matrix (Fin d) (Fin d) ℝ)
    (hU : U * Uᵀ = 1) (_hU' : Uᵀ * U = 1) (hV : V * Vᵀ = 1) (_hV' : Vᵀ * V = 1)
    (x y : Fin d → ℝ) :
    (x ᵥ* (U * V) - y ᵥ* (U * V)) ⬝ᵥ (x ᵥ* (U * V) - y ᵥ* (U * V)) = (x - y) ⬝ᵥ (x - y) :=
  procrustes_rigid' U V hU hV x y

/-- the whole aligned embedding: squared distance between rows `i` and `j` of `E * R`. -/
theorem procrustes_rigid_rows {m : Nat} (U V : Matrix (Fin d) (Fin d) ℝ)
    (hU : U * Uᵀ = 1) (hV : V * Vᵀ = 1) (E : Matrix (Fin m) (Fin d) ℝ) (i j : Fin m) :
    ((E * (U * V)) i - (E * (U * V)) j) ⬝ᵥ ((E * (U * V)) i - (E * (U * V)) j)
      = (E i - E j) ⬝ᵥ (E i - E j) :=
  -- row `i` of `E * R` is `E i ᵥ* R` by definition
  procrustes_rigid' U V hU hV (E i) (E j)

/-! ### non-vacuity: a quarter-turn rotation and a reflection -/

def rot : Matrix (Fin 2) (Fin 2) ℝ := !![0, -1; 1, 0]
def refl : Matrix (Fin 2) (Fin 2) ℝ := !![1, 0; 0, -1]

theorem transpose_fin_two (a b c e : ℝ) : !![a, b; c, e]ᵀ = !![a, c; b, e] :=
  (eta_fin_two _).trans rfl

theorem rot_orth : rot * rotᵀ = 1 := by
  rw [rot, transpose_fin_two, Matrix.mul_fin_two, Matrix.one_fin_two]; norm_num
theorem rot_orth' : rotᵀ * rot = 1 := by
  rw [rot, transpose_fin_two, Matrix.mul_fin_two, Matrix.one_fin_two]; norm_num
theorem refl_orth : refl * reflᵀ = 1 := by
  rw [refl, transpose_fin_two, Matrix.mul_fin_two, Matrix.one_fin_two]; norm_num
theorem refl_orth' : reflᵀ * refl = 1 := by
  rw [refl, transpose_fin_two, Matrix.mul_fin_two, Matrix.one_fin_two]; norm_num

example (x y : Fin 2 → ℝ) :
    (x ᵥ* (rot * refl) - y ᵥ* (rot * refl)) ⬝ᵥ (x ᵥ* (rot * refl) - y ᵥ* (rot * refl))
      = (x - y) ⬝ᵥ (x - y) :=
  procrustes_rigid rot refl rot_orth rot_orth' refl_orth refl_orth' x y

/-- the product is not the identity (the statement is not about a trivial `R`). -/
example : rot * refl ≠ 1 := by
  intro h
  have := congrFun (congrFun h 0) 0
  simp [rot, refl, Matrix.mul_apply, Fin.sum_univ_two] at this

end C19
end Umap
