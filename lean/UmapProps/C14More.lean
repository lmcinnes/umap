/-
  C14 (continued) — haversine, spherical and diagonal Gaussian energy gradients.

  Model: `Umap.Grad.haversineGrad`, `sphericalGaussianEnergyGrad`, `diagonalGaussianEnergyGrad`
  (Python: `haversine_grad`, `spherical_gaussian_energy_grad`, `diagonal_gaussian_energy_grad` in
  `umap/distances.py`), at `ℝ` with `Umap.realT` and `pi := Real.pi`.  For each: a closed form of
  everything the function returns; that each gradient entry is the derivative, in that coordinate of
  `x`, of the distance the gradient function itself returns — per coordinate on explicit lists, and
  for all coordinates at once in the `Function.update` form of `UmapProps/C14.lean`.  Two
  observations: the distance returned by `haversine_grad` is the haversine distance of the
  latitude-shifted points, not `haversine(x, y)`; the `det == 0` branch of
  `diagonal_gaussian_energy_grad` (a `TODO` in the source) does not return a derivative.
-/
import UmapProps.C14
import UmapModel.Grad
import UmapProps.C12Real
import Mathlib.Analysis.SpecialFunctions.Trigonometric.InverseDeriv

namespace Umap
namespace C14
open Metrics

/-- the quantity `a_1` of `haversine_grad` (with its `+ π/2` latitude shift). -/
noncomputable def havA (x0 x1 y0 y1 : ℝ) : ℝ :=
  Real.cos (x0 + Real.pi / 2) * Real.cos (y0 + Real.pi / 2)
      * (Real.sin (1 / 2 * (x1 - y1)) * Real.sin (1 / 2 * (x1 - y1)))
    + Real.sin (1 / 2 * (x0 - y0)) * Real.sin (1 / 2 * (x0 - y0))

theorem haversineGrad_eq (eps x0 x1 y0 y1 : ℝ) :
    Grad.haversineGrad realT Real.pi eps [x0, x1] [y0, y1]
      = some (2 * Real.arcsin (Real.sqrt (min (max |havA x0 x1 y0 y1| 0) 1)),
          [ (Real.sin (1 / 2 * (x0 - y0)) * Real.cos (1 / 2 * (x0 - y0))
              - Real.sin (x0 + Real.pi / 2) * Real.cos (y0 + Real.pi / 2)
                * (Real.sin (1 / 2 * (x1 - y1)) * Real.sin (1 / 2 * (x1 - y1))))
              / (Real.sqrt |havA x0 x1 y0 y1 - 1| * Real.sqrt |havA x0 x1 y0 y1| + eps),
            (Real.cos (x0 + Real.pi / 2) * Real.cos (y0 + Real.pi / 2)
                * Real.sin (1 / 2 * (x1 - y1)) * Real.cos (1 / 2 * (x1 - y1)))
              / (Real.sqrt |havA x0 x1 y0 y1 - 1| * Real.sqrt |havA x0 x1 y0 y1| + eps) ]) := by
  simp only [Grad.haversineGrad, realT, two, Nat.cast_ofNat, absV_eq_abs, havA, maxV_eq_max,
    minV_eq_min]

theorem haversineGrad_fst (eps x0 x1 y0 y1 : ℝ) :
    (Grad.haversineGrad realT Real.pi eps [x0, x1] [y0, y1]).get!.1
      = 2 * Real.arcsin (Real.sqrt (min (max |havA x0 x1 y0 y1| 0) 1)) := by
  rw [haversineGrad_eq]; rfl

theorem haversineGrad_length (eps x0 x1 y0 y1 : ℝ) :
    (Grad.haversineGrad realT Real.pi eps [x0, x1] [y0, y1]).get!.2.length = 2 := by
  rw [haversineGrad_eq]; rfl

theorem hasDerivAt_hav_of {A : ℝ → ℝ} {A' t0 : ℝ} (hA : HasDerivAt A A' t0)
    (h0 : 0 < A t0) (h1 : A t0 < 1) :
    HasDerivAt (fun t => 2 * Real.arcsin (Real.sqrt (min (max |A t| 0) 1)))
      (A' / (Real.sqrt |A t0 - 1| * Real.sqrt |A t0| + 0)) t0 := by
  have hev : (fun t => 2 * Real.arcsin (Real.sqrt (min (max |A t| 0) 1)))
      =ᶠ[nhds t0] (fun t => 2 * Real.arcsin (Real.sqrt (A t))) := by
    filter_upwards [hA.continuousAt.eventually (lt_mem_nhds h0),
      hA.continuousAt.eventually (gt_mem_nhds h1)] with t ht0 ht1
    rw [abs_of_pos ht0, max_eq_left ht0.le, min_eq_left ht1.le]
  refine HasDerivAt.congr_of_eventuallyEq ?_ hev
  have hlt : Real.sqrt (A t0) < 1 := by
    rw [← Real.sqrt_one]; exact Real.sqrt_lt_sqrt h0.le h1
  have ha := ((Real.hasDerivAt_arcsin (x := Real.sqrt (A t0))
    (lt_of_lt_of_le neg_one_lt_zero (Real.sqrt_nonneg _)).ne' hlt.ne).comp t0
      (hA.sqrt h0.ne')).const_mul 2
  refine ha.congr_deriv ?_
  rw [Real.sq_sqrt h0.le, abs_of_neg (sub_neg.2 h1), abs_of_pos h0, neg_sub,
    add_zero]
  ring

theorem hasDerivAt_havA_lat (x0 x1 y0 y1 : ℝ) :
    HasDerivAt (fun t => havA t x1 y0 y1)
      (Real.sin (1 / 2 * (x0 - y0)) * Real.cos (1 / 2 * (x0 - y0))
        - Real.sin (x0 + Real.pi / 2) * Real.cos (y0 + Real.pi / 2)
          * (Real.sin (1 / 2 * (x1 - y1)) * Real.sin (1 / 2 * (x1 - y1)))) x0 := by
  unfold havA
  have hc : HasDerivAt (fun t : ℝ => Real.cos (t + Real.pi / 2))
      (-Real.sin (x0 + Real.pi / 2) * 1) x0 := ((hasDerivAt_id' x0).add_const _).cos
  have hs : HasDerivAt (fun t : ℝ => Real.sin (1 / 2 * (t - y0)))
      (Real.cos (1 / 2 * (x0 - y0)) * (1 / 2 * 1)) x0 :=
    (((hasDerivAt_id' x0).sub_const y0).const_mul (1 / 2)).sin
  have h := ((hc.mul_const (Real.cos (y0 + Real.pi / 2))).mul_const
    (Real.sin (1 / 2 * (x1 - y1)) * Real.sin (1 / 2 * (x1 - y1)))).fun_add (hs.fun_mul hs)
  exact h.congr_deriv (by ring)

theorem hasDerivAt_havA_long (x0 x1 y0 y1 : ℝ) :
    HasDerivAt (fun t => havA x0 t y0 y1)
      (Real.cos (x0 + Real.pi / 2) * Real.cos (y0 + Real.pi / 2)
        * Real.sin (1 / 2 * (x1 - y1)) * Real.cos (1 / 2 * (x1 - y1))) x1 := by
  unfold havA
  have hs : HasDerivAt (fun t : ℝ => Real.sin (1 / 2 * (t - y1)))
      (Real.cos (1 / 2 * (x1 - y1)) * (1 / 2 * 1)) x1 :=
    (((hasDerivAt_id' x1).sub_const y1).const_mul (1 / 2)).sin
  have h := ((hs.fun_mul hs).const_mul
    (Real.cos (x0 + Real.pi / 2) * Real.cos (y0 + Real.pi / 2))).add_const
    (Real.sin (1 / 2 * (x0 - y0)) * Real.sin (1 / 2 * (x0 - y0)))
  exact h.congr_deriv (by ring)

/-- C14, haversine, latitude: with `eps = 0` and `0 < a_1 < 1`, the first gradient entry is the
    derivative in `x0` of the distance that `haversine_grad` itself returns. -/
theorem haversine_grad_hasDerivAt_lat (x0 x1 y0 y1 : ℝ)
    (h0 : 0 < havA x0 x1 y0 y1) (h1 : havA x0 x1 y0 y1 < 1) :
    HasDerivAt
      (fun t => (Grad.haversineGrad realT Real.pi 0 [t, x1] [y0, y1]).get!.1)
      ((Grad.haversineGrad realT Real.pi 0 [x0, x1] [y0, y1]).get!.2.getD 0 0) x0 := by
  simp_rw [haversineGrad_fst]
  rw [haversineGrad_eq]
  exact hasDerivAt_hav_of (hasDerivAt_havA_lat x0 x1 y0 y1) h0 h1

theorem haversine_grad_hasDerivAt_long (x0 x1 y0 y1 : ℝ)
    (h0 : 0 < havA x0 x1 y0 y1) (h1 : havA x0 x1 y0 y1 < 1) :
    HasDerivAt
      (fun t => (Grad.haversineGrad realT Real.pi 0 [x0, t] [y0, y1]).get!.1)
      ((Grad.haversineGrad realT Real.pi 0 [x0, x1] [y0, y1]).get!.2.getD 1 0) x1 := by
  simp_rw [haversineGrad_fst]
  rw [haversineGrad_eq]
  exact hasDerivAt_hav_of (hasDerivAt_havA_long x0 x1 y0 y1) h0 h1

/-- C14, haversine, both coordinates at once, in the style of the other C14 theorems. -/
theorem haversine_grad_hasDerivAt (x y : Fin 2 → ℝ) (i : Fin 2)
    (h0 : 0 < havA (x 0) (x 1) (y 0) (y 1)) (h1 : havA (x 0) (x 1) (y 0) (y 1) < 1) :
    HasDerivAt
      (fun t => (Grad.haversineGrad realT Real.pi 0 (List.ofFn (Function.update x i t))
        (List.ofFn y)).get!.1)
      ((Grad.haversineGrad realT Real.pi 0 (List.ofFn x) (List.ofFn y)).get!.2.getD i.val 0)
      (x i) := by
  simp only [ofFn2]
  fin_cases i
  · exact haversine_grad_hasDerivAt_lat (x 0) (x 1) (y 0) (y 1) h0 h1
  · exact haversine_grad_hasDerivAt_long (x 0) (x 1) (y 0) (y 1) h0 h1

/-- `a_1` is the radicand of `haversine` at the latitude-shifted points, hence always in `[0, 1]`
    (`C12.haversine_radicand_range`): the `abs`, `max … 0` and `min … 1` of the code are no-ops, and
    `0 < a_1 < 1` fails only at `a_1 = 0` (`d = 0`) and `a_1 = 1` (`d = π`, antipodal), where `d` is
    not differentiable. -/
theorem havA_eq_havRad (x0 x1 y0 y1 : ℝ) :
    havA x0 x1 y0 y1 = C12.havRad (x0 + Real.pi / 2) x1 (y0 + Real.pi / 2) y1 := by
  unfold havA C12.havRad; rw [add_sub_add_right_eq_sub, add_comm]

theorem havA_nonneg (x0 x1 y0 y1 : ℝ) : 0 ≤ havA x0 x1 y0 y1 :=
  havA_eq_havRad x0 x1 y0 y1 ▸ (C12.haversine_radicand_range _ _ _ _).1

theorem havA_le_one (x0 x1 y0 y1 : ℝ) : havA x0 x1 y0 y1 ≤ 1 :=
  havA_eq_havRad x0 x1 y0 y1 ▸ (C12.haversine_radicand_range _ _ _ _).2

theorem sin_pi_div_four_mul_self : Real.sin (Real.pi / 4) * Real.sin (Real.pi / 4) = 1 / 2 := by
  rw [Real.sin_pi_div_four, div_mul_div_comm, Real.mul_self_sqrt (by norm_num)]; norm_num

theorem havA_val1 : havA (Real.pi / 2) 0 0 0 = 1 / 2 := by
  unfold havA
  rw [sub_self, mul_zero, Real.sin_zero, mul_zero, mul_zero, zero_add, sub_zero,
    show (1 / 2 * (Real.pi / 2) : ℝ) = Real.pi / 4 by ring, sin_pi_div_four_mul_self]

theorem havA_val2 : havA (Real.pi / 2) (Real.pi / 2) (Real.pi / 2) 0 = 1 / 2 := by
  unfold havA
  rw [sub_self, mul_zero, Real.sin_zero, mul_zero, add_zero, add_halves, Real.cos_pi, sub_zero,
    show (1 / 2 * (Real.pi / 2) : ℝ) = Real.pi / 4 by ring, sin_pi_div_four_mul_self]
  norm_num

/-- C14, haversine: the hypotheses `0 < a_1 < 1` are exactly `a_1 ≠ 0`, `a_1 ≠ 1`. -/
theorem haversine_grad_hasDerivAt' (x y : Fin 2 → ℝ) (i : Fin 2)
    (h0 : havA (x 0) (x 1) (y 0) (y 1) ≠ 0) (h1 : havA (x 0) (x 1) (y 0) (y 1) ≠ 1) :
    HasDerivAt
      (fun t => (Grad.haversineGrad realT Real.pi 0 (List.ofFn (Function.update x i t))
        (List.ofFn y)).get!.1)
      ((Grad.haversineGrad realT Real.pi 0 (List.ofFn x) (List.ofFn y)).get!.2.getD i.val 0)
      (x i) :=
  haversine_grad_hasDerivAt x y i (lt_of_le_of_ne (havA_nonneg _ _ _ _) (Ne.symm h0))
    (lt_of_le_of_ne (havA_le_one _ _ _ _) h1)

/-- non-vacuity, latitude: `x = (π/2, 0)`, `y = (0, 0)` has `a_1 = 1/2`. -/
example : HasDerivAt
    (fun t => (Grad.haversineGrad realT Real.pi 0 [t, 0] [0, 0]).get!.1)
    ((Grad.haversineGrad realT Real.pi 0 [Real.pi / 2, 0] [0, 0]).get!.2.getD 0 0)
    (Real.pi / 2) :=
  haversine_grad_hasDerivAt_lat (Real.pi / 2) 0 0 0 (by rw [havA_val1]; norm_num)
    (by rw [havA_val1]; norm_num)

/-- non-vacuity, longitude: `x = (π/2, π/2)`, `y = (π/2, 0)` has `a_1 = 1/2`. -/
example : HasDerivAt
    (fun t => (Grad.haversineGrad realT Real.pi 0 [Real.pi / 2, t] [Real.pi / 2, 0]).get!.1)
    ((Grad.haversineGrad realT Real.pi 0 [Real.pi / 2, Real.pi / 2]
      [Real.pi / 2, 0]).get!.2.getD 1 0)
    (Real.pi / 2) :=
  haversine_grad_hasDerivAt_long (Real.pi / 2) (Real.pi / 2) (Real.pi / 2) 0
    (by rw [havA_val2]; norm_num) (by rw [havA_val2]; norm_num)

/-- `div_eps_add` for the code's `denom + eps` order. -/
theorem eps_alg (g D eps : ℝ) (hD : D ≠ 0) : g / (D + eps) = g / (D + 0) * (D / (D + eps)) := by
  rw [add_comm D eps, add_comm D 0]; exact div_eps_add g D eps hD

/-- the regularised (`eps ≠ 0`) gradient is the true one shrunk by `denom / (denom + eps)`. -/
theorem haversine_grad_eps (eps x0 x1 y0 y1 : ℝ) (i : Fin 2)
    (h0 : 0 < havA x0 x1 y0 y1) (h1 : havA x0 x1 y0 y1 < 1) :
    (Grad.haversineGrad realT Real.pi eps [x0, x1] [y0, y1]).get!.2.getD i.val 0
      = (Grad.haversineGrad realT Real.pi 0 [x0, x1] [y0, y1]).get!.2.getD i.val 0
        * (Real.sqrt |havA x0 x1 y0 y1 - 1| * Real.sqrt |havA x0 x1 y0 y1|
            / (Real.sqrt |havA x0 x1 y0 y1 - 1| * Real.sqrt |havA x0 x1 y0 y1| + eps)) := by
  have hD : Real.sqrt |havA x0 x1 y0 y1 - 1| * Real.sqrt |havA x0 x1 y0 y1| ≠ 0 := by
    apply mul_ne_zero
    · exact (Real.sqrt_pos.2 (abs_pos.2 (sub_neg.2 h1).ne)).ne'
    · exact (Real.sqrt_pos.2 (abs_pos.2 h0.ne')).ne'
  rw [haversineGrad_eq, haversineGrad_eq]
  fin_cases i
  · exact eps_alg _ _ _ hD
  · exact eps_alg _ _ _ hD

/-! ### an observation: the distance `haversine_grad` returns is not `haversine(x, y)`

  Because of the `+ π/2` latitude shift inside `haversine_grad`, the distance it returns (and whose
  derivative its gradient is, by the theorems above) is the haversine distance of the two points
  with both latitudes shifted by `π/2`, which is a different function of `(x, y)`. -/

theorem haversineGrad_fst_eq_metric_shift (eps x0 x1 y0 y1 : ℝ) :
    (Grad.haversineGrad realT Real.pi eps [x0, x1] [y0, y1]).get!.1
      = (haversine realT [x0 + Real.pi / 2, x1] [y0 + Real.pi / 2, y1]).get! := by
  rw [haversineGrad_fst, abs_of_nonneg (havA_nonneg _ _ _ _), max_eq_left (havA_nonneg _ _ _ _),
    min_eq_left (havA_le_one _ _ _ _), C12.haversine_eq_havRad, havA_eq_havRad]
  rfl

/-- at `x = (0, π)`, `y = (0, 0)` `haversine_grad` returns the distance `0` … -/
theorem haversineGrad_fst_example (eps : ℝ) :
    (Grad.haversineGrad realT Real.pi eps [0, Real.pi] [0, 0]).get!.1 = 0 := by
  have h : havA 0 Real.pi 0 0 = 0 := by
    unfold havA
    rw [zero_add, Real.cos_pi_div_two, zero_mul, zero_mul, sub_self, mul_zero, Real.sin_zero,
      mul_zero, add_zero]
  rw [haversineGrad_fst, h, abs_zero, max_self, min_eq_left zero_le_one, Real.sqrt_zero,
    Real.arcsin_zero, mul_zero]

/-- … while `haversine` of the same pair is `π`. -/
theorem haversine_example : (haversine realT [0, Real.pi] [0, 0]).get! = Real.pi := by
  have h : C12.havRad 0 Real.pi 0 0 = 1 := by
    unfold C12.havRad
    rw [sub_self, mul_zero, Real.sin_zero, mul_zero, zero_add, Real.cos_zero, one_mul, sub_zero,
      one_div_mul_eq_div, Real.sin_pi_div_two, one_mul, one_mul]
  rw [C12.haversine_eq_havRad, h, Real.sqrt_one, Real.arcsin_one, mul_div_cancel₀ _ two_ne_zero]
  rfl

theorem haversineGrad_fst_ne_metric :
    (Grad.haversineGrad realT Real.pi 0 [0, Real.pi] [0, 0]).get!.1
      ≠ (haversine realT [0, Real.pi] [0, 0]).get! := by
  rw [haversineGrad_fst_example, haversine_example]
  exact Real.pi_pos.ne

theorem sphericalGaussianEnergyGrad_eq (x0 x1 x2 y0 y1 y2 : ℝ) :
    Grad.sphericalGaussianEnergyGrad realT Real.pi [x0, x1, x2] [y0, y1, y2]
      = some (((x0 - y0) * (x0 - y0) + (x1 - y1) * (x1 - y1)) / (2 * (|x2| + |y2|))
                + Real.log (|x2| + |y2|) + Real.log (2 * Real.pi),
          [ (x0 - y0) / (|x2| + |y2|), (x1 - y1) / (|x2| + |y2|),
            signV x2 * (1 / (|x2| + |y2|)
              - ((x0 - y0) * (x0 - y0) + (x1 - y1) * (x1 - y1))
                / (2 * ((|x2| + |y2|) * (|x2| + |y2|)))) ]) := by
  simp only [Grad.sphericalGaussianEnergyGrad, realT, two, Nat.cast_ofNat, absV_eq_abs]

theorem sphericalGaussianEnergyGrad_length (x0 x1 x2 y0 y1 y2 : ℝ) :
    (Grad.sphericalGaussianEnergyGrad realT Real.pi [x0, x1, x2] [y0, y1, y2]).get!.2.length
      = 3 := by
  rw [sphericalGaussianEnergyGrad_eq]; rfl

theorem spherical_gaussian_energy_grad_hasDerivAt_x0 (x0 x1 x2 y0 y1 y2 : ℝ) :
    HasDerivAt
      (fun t => (Grad.sphericalGaussianEnergyGrad realT Real.pi [t, x1, x2] [y0, y1, y2]).get!.1)
      ((Grad.sphericalGaussianEnergyGrad realT Real.pi [x0, x1, x2] [y0, y1, y2]).get!.2.getD 0 0)
      x0 := by
  simp only [sphericalGaussianEnergyGrad_eq, Option.get!_some]
  exact (((((hasDerivAt_sub_mul_self y0 x0).add_const _).div_const _).add_const _).add_const
    _).congr_deriv (two_mul_div_two_mul _ _)

theorem spherical_gaussian_energy_grad_hasDerivAt_x1 (x0 x1 x2 y0 y1 y2 : ℝ) :
    HasDerivAt
      (fun t => (Grad.sphericalGaussianEnergyGrad realT Real.pi [x0, t, x2] [y0, y1, y2]).get!.1)
      ((Grad.sphericalGaussianEnergyGrad realT Real.pi [x0, x1, x2] [y0, y1, y2]).get!.2.getD 1 0)
      x1 := by
  simp only [sphericalGaussianEnergyGrad_eq, Option.get!_some]
  exact (((((hasDerivAt_sub_mul_self y1 x1).const_add _).div_const _).add_const _).add_const
    _).congr_deriv (two_mul_div_two_mul _ _)

/-- C14, spherical Gaussian energy, width coordinate (`x2 ≠ 0`, where `|·|` is
    differentiable; then `|x2| + |y2| > 0` automatically). -/
theorem spherical_gaussian_energy_grad_hasDerivAt_x2 (x0 x1 x2 y0 y1 y2 : ℝ) (hx2 : x2 ≠ 0) :
    HasDerivAt
      (fun t => (Grad.sphericalGaussianEnergyGrad realT Real.pi [x0, x1, t] [y0, y1, y2]).get!.1)
      ((Grad.sphericalGaussianEnergyGrad realT Real.pi [x0, x1, x2] [y0, y1, y2]).get!.2.getD 2 0)
      x2 := by
  -- `Q / (2 σ)` and `Q / (2 σ²)` read as `(Q / 2) / σ` and `(Q / 2) / σ²`
  simp only [sphericalGaussianEnergyGrad_eq, Option.get!_some, List.getD_cons_succ,
    List.getD_cons_zero, ← div_div _ (2 : ℝ)]
  exact (hasDerivAt_div_add_log (hasDerivAt_abs_add_abs y2 hx2) (abs_add_abs_pos hx2 y2).ne'
    _).add_const _

/-- C14, spherical Gaussian energy, all three coordinates at once (the width coordinate needs
    `x 2 ≠ 0`).  For the two mean coordinates no hypothesis is needed in Lean because `a / 0 = 0`
    there; the statement is meaningful for the Python code where `|x 2| + |y 2| > 0`. -/
theorem spherical_gaussian_energy_grad_hasDerivAt (x y : Fin 3 → ℝ) (i : Fin 3)
    (hw : i = 2 → x 2 ≠ 0) :
    HasDerivAt
      (fun t => (Grad.sphericalGaussianEnergyGrad realT Real.pi
        (List.ofFn (Function.update x i t)) (List.ofFn y)).get!.1)
      ((Grad.sphericalGaussianEnergyGrad realT Real.pi (List.ofFn x)
        (List.ofFn y)).get!.2.getD i.val 0) (x i) := by
  simp only [ofFn3]
  fin_cases i
  · exact spherical_gaussian_energy_grad_hasDerivAt_x0 (x 0) (x 1) (x 2) (y 0) (y 1) (y 2)
  · exact spherical_gaussian_energy_grad_hasDerivAt_x1 (x 0) (x 1) (x 2) (y 0) (y 1) (y 2)
  · exact spherical_gaussian_energy_grad_hasDerivAt_x2 (x 0) (x 1) (x 2) (y 0) (y 1) (y 2)
      (hw rfl)

/-- non-vacuity: every coordinate of `x = (1, 2, -3)` against `y = (0, 1, 2)`. -/
example (i : Fin 3) : HasDerivAt
    (fun t => (Grad.sphericalGaussianEnergyGrad realT Real.pi
      (List.ofFn (Function.update ![1, 2, -3] i t)) (List.ofFn ![0, 1, 2])).get!.1)
    ((Grad.sphericalGaussianEnergyGrad realT Real.pi (List.ofFn ![1, 2, -3])
      (List.ofFn ![0, 1, 2])).get!.2.getD i.val 0) ((![1, 2, -3] : Fin 3 → ℝ) i) :=
  spherical_gaussian_energy_grad_hasDerivAt ![1, 2, -3] ![0, 1, 2] i (fun _ => by simp)

example : HasDerivAt
    (fun t => (Grad.sphericalGaussianEnergyGrad realT Real.pi [1, 2, t] [0, 1, 2]).get!.1)
    ((Grad.sphericalGaussianEnergyGrad realT Real.pi [1, 2, -3] [0, 1, 2]).get!.2.getD 2 0)
    (-3) :=
  spherical_gaussian_energy_grad_hasDerivAt_x2 1 2 (-3) 0 1 2 (by norm_num)

/-- the distance `diagonal_gaussian_energy_grad` returns when `det ≠ 0`: half the sum of the two
    one-dimensional energies `μ² / σ + log σ`, plus `log 2π` (the code computes it over the common
    denominator `det = σ₁₁ σ₂₂`, with redundant absolute values). -/
noncomputable def dgeDist (x0 x1 x2 x3 y0 y1 y2 y3 : ℝ) : ℝ :=
  (((x0 - y0) * (x0 - y0) / (|x2| + |y2|) + Real.log (|x2| + |y2|))
    + ((x1 - y1) * (x1 - y1) / (|x3| + |y3|) + Real.log (|x3| + |y3|))) / 2
    + Real.log (2 * Real.pi)

theorem abs_abs_add_abs (a b : ℝ) : |(|a| + |b|)| = |a| + |b| :=
  abs_of_nonneg (add_nonneg (abs_nonneg a) (abs_nonneg b))

/-- a width entry of `diagonal_gaussian_energy_grad`, which the code computes over
    `det² = (σ τ)²`, reduced: the numerator `τ (σ τ - (τ a + σ b)) + σ τ b` is `τ² (σ - a)`. -/
theorem dge_width_alg (s a b : ℝ) {σ τ : ℝ} (hσ : σ ≠ 0) (hτ : τ ≠ 0) :
    s * (τ * (σ * τ - (τ * a + σ * b)) + σ * τ * b) / (2 * (σ * τ * (σ * τ)))
      = s * (1 / σ - a / (σ * σ)) / 2 := by
  field_simp
  ring

/-- closed form of everything `diagonal_gaussian_energy_grad` returns when `det ≠ 0`, with the
    code's fractions over `det` and `det²` reduced. -/
theorem diagonalGaussianEnergyGrad_eq {x0 x1 x2 x3 y0 y1 y2 y3 : ℝ}
    (hdet : (|x2| + |y2|) * (|x3| + |y3|) ≠ 0) :
    Grad.diagonalGaussianEnergyGrad realT Real.pi [x0, x1, x2, x3] [y0, y1, y2, y3]
      = some (dgeDist x0 x1 x2 x3 y0 y1 y2 y3,
          [ (x0 - y0) / (|x2| + |y2|), (x1 - y1) / (|x3| + |y3|),
            signV x2 * (1 / (|x2| + |y2|)
              - (x0 - y0) * (x0 - y0) / ((|x2| + |y2|) * (|x2| + |y2|))) / 2,
            signV x3 * (1 / (|x3| + |y3|)
              - (x1 - y1) * (x1 - y1) / ((|x3| + |y3|) * (|x3| + |y3|))) / 2 ]) := by
  have h1 := left_ne_zero_of_mul hdet
  have h2 := right_ne_zero_of_mul hdet
  simp only [Grad.diagonalGaussianEnergyGrad, realT, two, Nat.cast_ofNat, absV_eq_abs, eqV_iff,
    if_neg hdet, abs_abs_add_abs, abs_mul, dgeDist, Real.log_mul h1 h2]
  refine congrArg some (Prod.ext ?_ ?_)
  · show _ = _
    rw [add_div ((|x3| + |y3|) * _), mul_comm (|x3| + |y3|), mul_div_mul_right _ _ h2,
      mul_div_mul_left _ _ h1, add_add_add_comm]
  · show [_, _, _, _] = [_, _, _, _]
    congr 1
    · rw [mul_assoc, two_mul_div_two_mul, mul_comm (|x2| + |y2|), mul_div_mul_left _ _ h2]
    congr 1
    · rw [mul_assoc, two_mul_div_two_mul, mul_div_mul_left _ _ h1]
    congr 1
    · exact dge_width_alg _ _ _ h1 h2
    congr 1
    -- the other width entry is the same formula with the two widths exchanged
    rw [mul_comm (|x2| + |y2|) (|x3| + |y3|), add_comm ((|x3| + |y3|) * _)]
    exact dge_width_alg _ _ _ h2 h1

theorem diagonalGaussianEnergyGrad_eq_of_det_zero {x0 x1 x2 x3 y0 y1 y2 y3 : ℝ}
    (hdet : (|x2| + |y2|) * (|x3| + |y3|) = 0) :
    Grad.diagonalGaussianEnergyGrad realT Real.pi [x0, x1, x2, x3] [y0, y1, y2, y3]
      = some ((x0 - y0) * (x0 - y0) + (x1 - y1) * (x1 - y1), [0, 0, 1, 1]) := by
  simp only [Grad.diagonalGaussianEnergyGrad, absV_eq_abs, eqV_iff, if_pos hdet]

theorem diagonalGaussianEnergyGrad_fst {x0 x1 x2 x3 y0 y1 y2 y3 : ℝ}
    (hdet : (|x2| + |y2|) * (|x3| + |y3|) ≠ 0) :
    (Grad.diagonalGaussianEnergyGrad realT Real.pi [x0, x1, x2, x3] [y0, y1, y2, y3]).get!.1
      = dgeDist x0 x1 x2 x3 y0 y1 y2 y3 := by
  rw [diagonalGaussianEnergyGrad_eq hdet]; rfl

theorem diagonalGaussianEnergyGrad_length (x0 x1 x2 x3 y0 y1 y2 y3 : ℝ) :
    (Grad.diagonalGaussianEnergyGrad realT Real.pi [x0, x1, x2, x3] [y0, y1, y2, y3]).get!.2.length
      = 4 := by
  by_cases hdet : (|x2| + |y2|) * (|x3| + |y3|) = 0
  · rw [diagonalGaussianEnergyGrad_eq_of_det_zero hdet]; rfl
  · rw [diagonalGaussianEnergyGrad_eq hdet]; rfl

theorem diagonal_gaussian_energy_grad_hasDerivAt_x0 (x0 x1 x2 x3 y0 y1 y2 y3 : ℝ)
    (hdet : (|x2| + |y2|) * (|x3| + |y3|) ≠ 0) :
    HasDerivAt
      (fun t => (Grad.diagonalGaussianEnergyGrad realT Real.pi [t, x1, x2, x3]
        [y0, y1, y2, y3]).get!.1)
      ((Grad.diagonalGaussianEnergyGrad realT Real.pi [x0, x1, x2, x3]
        [y0, y1, y2, y3]).get!.2.getD 0 0) x0 := by
  simp only [diagonalGaussianEnergyGrad_eq hdet, Option.get!_some, List.getD_cons_zero]
  exact ((((((hasDerivAt_sub_mul_self y0 x0).div_const _).add_const _).add_const _).div_const
    2).add_const _).congr_deriv (by rw [div_div, mul_comm _ 2, two_mul_div_two_mul])

theorem diagonal_gaussian_energy_grad_hasDerivAt_x1 (x0 x1 x2 x3 y0 y1 y2 y3 : ℝ)
    (hdet : (|x2| + |y2|) * (|x3| + |y3|) ≠ 0) :
    HasDerivAt
      (fun t => (Grad.diagonalGaussianEnergyGrad realT Real.pi [x0, t, x2, x3]
        [y0, y1, y2, y3]).get!.1)
      ((Grad.diagonalGaussianEnergyGrad realT Real.pi [x0, x1, x2, x3]
        [y0, y1, y2, y3]).get!.2.getD 1 0) x1 := by
  simp only [diagonalGaussianEnergyGrad_eq hdet, Option.get!_some, List.getD_cons_succ,
    List.getD_cons_zero]
  exact ((((((hasDerivAt_sub_mul_self y1 x1).div_const _).add_const _).const_add _).div_const
    2).add_const _).congr_deriv (by rw [div_div, mul_comm _ 2, two_mul_div_two_mul])

/-- C14, diagonal Gaussian energy, first width coordinate (`x2 ≠ 0`, `σ₂₂ ≠ 0`). -/
theorem diagonal_gaussian_energy_grad_hasDerivAt_x2 (x0 x1 x2 x3 y0 y1 y2 y3 : ℝ)
    (hx2 : x2 ≠ 0) (hs22 : |x3| + |y3| ≠ 0) :
    HasDerivAt
      (fun t => (Grad.diagonalGaussianEnergyGrad realT Real.pi [x0, x1, t, x3]
        [y0, y1, y2, y3]).get!.1)
      ((Grad.diagonalGaussianEnergyGrad realT Real.pi [x0, x1, x2, x3]
        [y0, y1, y2, y3]).get!.2.getD 2 0) x2 := by
  have hs11 : ∀ {t : ℝ}, t ≠ 0 → |t| + |y2| ≠ 0 := fun ht => (abs_add_abs_pos ht y2).ne'
  -- near `x2` the code stays in the `det ≠ 0` branch, where it returns `dgeDist`
  refine HasDerivAt.congr_of_eventuallyEq ?_ ((continuousAt_id.eventually_ne hx2).mono fun t ht =>
    diagonalGaussianEnergyGrad_fst (mul_ne_zero (hs11 ht) hs22))
  rw [diagonalGaussianEnergyGrad_eq (mul_ne_zero (hs11 hx2) hs22)]
  exact ((((hasDerivAt_div_add_log (hasDerivAt_abs_add_abs y2 hx2) (hs11 hx2) _).add_const
    _).div_const 2).add_const _).congr_deriv
      (by simp only [Option.get!_some, List.getD_cons_succ, List.getD_cons_zero])

/-- C14, diagonal Gaussian energy, second width coordinate (`x3 ≠ 0`, `σ₁₁ ≠ 0`). -/
theorem diagonal_gaussian_energy_grad_hasDerivAt_x3 (x0 x1 x2 x3 y0 y1 y2 y3 : ℝ)
    (hx3 : x3 ≠ 0) (hs11 : |x2| + |y2| ≠ 0) :
    HasDerivAt
      (fun t => (Grad.diagonalGaussianEnergyGrad realT Real.pi [x0, x1, x2, t]
        [y0, y1, y2, y3]).get!.1)
      ((Grad.diagonalGaussianEnergyGrad realT Real.pi [x0, x1, x2, x3]
        [y0, y1, y2, y3]).get!.2.getD 3 0) x3 := by
  have hs22 : ∀ {t : ℝ}, t ≠ 0 → |t| + |y3| ≠ 0 := fun ht => (abs_add_abs_pos ht y3).ne'
  refine HasDerivAt.congr_of_eventuallyEq ?_ ((continuousAt_id.eventually_ne hx3).mono fun t ht =>
    diagonalGaussianEnergyGrad_fst (mul_ne_zero hs11 (hs22 ht)))
  rw [diagonalGaussianEnergyGrad_eq (mul_ne_zero hs11 (hs22 hx3))]
  exact ((((hasDerivAt_div_add_log (hasDerivAt_abs_add_abs y3 hx3) (hs22 hx3) _).const_add
    _).div_const 2).add_const _).congr_deriv
      (by simp only [Option.get!_some, List.getD_cons_succ, List.getD_cons_zero])

/-- C14, diagonal Gaussian energy, all four coordinates at once: `det ≠ 0`, and the width
    coordinate being varied is non-zero (where `|·|` is differentiable). -/
theorem diagonal_gaussian_energy_grad_hasDerivAt (x y : Fin 4 → ℝ) (i : Fin 4)
    (hdet : (|x 2| + |y 2|) * (|x 3| + |y 3|) ≠ 0)
    (hw2 : i = 2 → x 2 ≠ 0) (hw3 : i = 3 → x 3 ≠ 0) :
    HasDerivAt
      (fun t => (Grad.diagonalGaussianEnergyGrad realT Real.pi
        (List.ofFn (Function.update x i t)) (List.ofFn y)).get!.1)
      ((Grad.diagonalGaussianEnergyGrad realT Real.pi (List.ofFn x)
        (List.ofFn y)).get!.2.getD i.val 0) (x i) := by
  simp only [ofFn4]
  fin_cases i
  · exact diagonal_gaussian_energy_grad_hasDerivAt_x0 (x 0) (x 1) (x 2) (x 3)
      (y 0) (y 1) (y 2) (y 3) hdet
  · exact diagonal_gaussian_energy_grad_hasDerivAt_x1 (x 0) (x 1) (x 2) (x 3)
      (y 0) (y 1) (y 2) (y 3) hdet
  · exact diagonal_gaussian_energy_grad_hasDerivAt_x2 (x 0) (x 1) (x 2) (x 3)
      (y 0) (y 1) (y 2) (y 3) (hw2 rfl) (right_ne_zero_of_mul hdet)
  · exact diagonal_gaussian_energy_grad_hasDerivAt_x3 (x 0) (x 1) (x 2) (x 3)
      (y 0) (y 1) (y 2) (y 3) (hw3 rfl) (left_ne_zero_of_mul hdet)

/-- both widths of `x` non-zero: then `det > 0` and every coordinate is covered. -/
theorem diagonal_gaussian_energy_grad_hasDerivAt' (x y : Fin 4 → ℝ) (i : Fin 4)
    (hx2 : x 2 ≠ 0) (hx3 : x 3 ≠ 0) :
    HasDerivAt
      (fun t => (Grad.diagonalGaussianEnergyGrad realT Real.pi
        (List.ofFn (Function.update x i t)) (List.ofFn y)).get!.1)
      ((Grad.diagonalGaussianEnergyGrad realT Real.pi (List.ofFn x)
        (List.ofFn y)).get!.2.getD i.val 0) (x i) :=
  diagonal_gaussian_energy_grad_hasDerivAt x y i
    (mul_pos (abs_add_abs_pos hx2 _) (abs_add_abs_pos hx3 _)).ne'
    (fun _ => hx2) (fun _ => hx3)

/-- non-vacuity: every coordinate of `x = (1, 2, -3, 1/2)` against `y = (0, 1, 2, 0)`. -/
example (i : Fin 4) : HasDerivAt
    (fun t => (Grad.diagonalGaussianEnergyGrad realT Real.pi
      (List.ofFn (Function.update ![1, 2, -3, 1 / 2] i t)) (List.ofFn ![0, 1, 2, 0])).get!.1)
    ((Grad.diagonalGaussianEnergyGrad realT Real.pi (List.ofFn ![1, 2, -3, 1 / 2])
      (List.ofFn ![0, 1, 2, 0])).get!.2.getD i.val 0) ((![1, 2, -3, 1 / 2] : Fin 4 → ℝ) i) :=
  diagonal_gaussian_energy_grad_hasDerivAt' _ _ i
    (by simp only [Matrix.cons_val]; norm_num) (by simp only [Matrix.cons_val]; norm_num)

example : HasDerivAt
    (fun t => (Grad.diagonalGaussianEnergyGrad realT Real.pi [1, 2, -3, t] [0, 1, 2, 0]).get!.1)
    ((Grad.diagonalGaussianEnergyGrad realT Real.pi [1, 2, -3, 1 / 2]
      [0, 1, 2, 0]).get!.2.getD 3 0) (1 / 2) :=
  diagonal_gaussian_energy_grad_hasDerivAt_x3 1 2 (-3) (1 / 2) 0 1 2 0 (by norm_num)
    (by norm_num)

/-! ### an observation: the `det == 0` branch of `diagonal_gaussian_energy_grad`

  The Python branch is marked `# TODO: figure out the right thing to do here`; it returns
  `μ₁² + μ₂²` with the constant "gradient" `[0, 0, 1, 1]`.  When `σ₂₂ = 0` (`x3 = y3 = 0`) the
  whole `x0`-line stays in that branch, the returned distance has derivative `2 (x0 - y0)` in
  `x0`, and the returned entry `0` is not that derivative unless `x0 = y0`. -/

theorem diagonal_gaussian_energy_det_zero_hasDerivAt_x0 (x0 x1 x2 x3 y0 y1 y2 y3 : ℝ)
    (hdet : (|x2| + |y2|) * (|x3| + |y3|) = 0) :
    HasDerivAt
      (fun t => (Grad.diagonalGaussianEnergyGrad realT Real.pi [t, x1, x2, x3]
        [y0, y1, y2, y3]).get!.1) (2 * (x0 - y0)) x0 := by
  simp_rw [diagonalGaussianEnergyGrad_eq_of_det_zero hdet]
  exact (hasDerivAt_sub_mul_self y0 x0).add_const _

theorem diagonal_gaussian_energy_grad_ne_deriv_of_det_zero (x0 x1 x2 x3 y0 y1 y2 y3 : ℝ)
    (hdet : (|x2| + |y2|) * (|x3| + |y3|) = 0) (hne : x0 ≠ y0) :
    ¬ HasDerivAt
      (fun t => (Grad.diagonalGaussianEnergyGrad realT Real.pi [t, x1, x2, x3]
        [y0, y1, y2, y3]).get!.1)
      ((Grad.diagonalGaussianEnergyGrad realT Real.pi [x0, x1, x2, x3]
        [y0, y1, y2, y3]).get!.2.getD 0 0) x0 := by
  intro h
  have e := h.unique (diagonal_gaussian_energy_det_zero_hasDerivAt_x0 x0 x1 x2 x3 y0 y1 y2 y3 hdet)
  rw [diagonalGaussianEnergyGrad_eq_of_det_zero hdet] at e
  -- the returned entry is `0`, the derivative `2 (x0 - y0)`
  have e' : 2 * (x0 - y0) = 0 := e.symm
  exact hne (sub_eq_zero.1 ((mul_eq_zero.1 e').resolve_left two_ne_zero))

example : ¬ HasDerivAt
    (fun t => (Grad.diagonalGaussianEnergyGrad realT Real.pi [t, 0, 1, 0] [0, 0, 1, 0]).get!.1)
    ((Grad.diagonalGaussianEnergyGrad realT Real.pi [1, 0, 1, 0] [0, 0, 1, 0]).get!.2.getD 0 0)
    1 :=
  diagonal_gaussian_energy_grad_ne_deriv_of_det_zero 1 0 1 0 0 0 1 0 (by norm_num) (by norm_num)

end C14
end Umap
