/-
  C10 — transform honours its contract at every point of a model's history.
  C11 — (history part) update keeps the model a faithful model of the stacked data.

  Model: `Umap.Api.St / Op / step` — a fitted estimator abstracted to the identity of its training
  data, the fingerprint `transform` compares against, and its embedding's row count.
-/
import UmapModel.Api
import UmapModel.Pipeline
import UmapProofs.Basic
import UmapProofs.SrcLemmas

namespace Umap
namespace C10
open Api

/-- the invariant every operation must preserve: the fingerprint describes the *current*
    training data, and the embedding has one row per training row. -/
def Inv (s : St) : Prop := s.fp = s.raw ∧ s.embRows = rowsOf s.raw

theorem step_transform (b : Bool) (s : St) (y : Data) :
    step b s (.transform y) = if y = s.fp then (s, .embedding s.embRows s.cols true)
      else (s, .embedding (rowsOf y) s.cols false) := rfl
theorem step_inverse (b : Bool) (s : St) (z : Nat) :
    step b s (.inverseTransform z) = (s, .inverse z s.feats) := rfl
theorem step_update (b : Bool) (s : St) (u : Nat × Nat) :
    step b s (.update u) =
      (⟨s.raw ++ [u], (if b then s.fp else s.raw ++ [u]), rowsOf (s.raw ++ [u]), s.cols, s.feats⟩,
       .updated) := rfl

theorem step_transform_fst (b : Bool) (s : St) (y : Data) : (step b s (.transform y)).1 = s := by
  rw [step_transform]; split_ifs <;> rfl

theorem inv_fit (x : Data) (c f : Nat) : Inv (fit x c f) := ⟨rfl, rfl⟩

theorem inv_step (s : St) (o : Op) (h : Inv s) : Inv (step false s o).1 := by
  cases o with
  | transform y => rw [step_transform_fst]; exact h
  | inverseTransform z => exact h
  | update b => exact ⟨rfl, rfl⟩

theorem cols_step (b : Bool) (s : St) (o : Op) :
    (step b s o).1.cols = s.cols ∧ (step b s o).1.feats = s.feats := by
  cases o with
  | transform y => rw [step_transform_fst]; exact ⟨rfl, rfl⟩
  | inverseTransform z => exact ⟨rfl, rfl⟩
  | update b => exact ⟨rfl, rfl⟩

/-- the invariant holds after **every history** of transform / inverse_transform / update calls. -/
theorem inv_run (x : Data) (c f : Nat) (ops : List Op) :
    Inv (run false (fit x c f) ops) ∧ (run false (fit x c f) ops).cols = c
      ∧ (run false (fit x c f) ops).feats = f := by
  refine foldl_inv (fun s => Inv s ∧ s.cols = c ∧ s.feats = f) _ ?_ ops _
    ⟨inv_fit x c f, rfl, rfl⟩
  intro s o ⟨h1, h2, h3⟩
  exact ⟨inv_step s o h1, (cols_step false s o).1.trans h2, (cols_step false s o).2.trans h3⟩

/-- in a state satisfying the invariant, `transform(Y)` returns exactly one row per row of `Y`
    with `n_components` columns, and it is the training embedding iff `Y` is the current data. -/
theorem transform_contract (s : St) (h : Inv s) (y : Data) :
    (step false s (.transform y)).2 = .embedding (rowsOf y) s.cols (decide (y = s.raw)) := by
  rw [step_transform, ← h.1]
  split_ifs with hy
  · rw [decide_eq_true hy, h.2, ← h.1, hy]
  · rw [decide_eq_false hy]

/--
  **C10.** After `fit` and any sequence of calls, `transform(Y)` yields `rows(Y) × n_components`,
  flagged as the training embedding exactly when `Y` is the current (stacked) training data; and
  `inverse_transform(Z)` yields `rows(Z) × n_features`.
-/
theorem C10_history (x : Data) (c f : Nat) (ops : List Op) (y : Data) (z : Nat) :
    let s := run false (fit x c f) ops
    (step false s (.transform y)).2 = .embedding (rowsOf y) c (decide (y = s.raw))
    ∧ (step false s (.inverseTransform z)).2 = .inverse z f := by
  intro s
  obtain ⟨hinv, hc, hf⟩ := inv_run x c f ops
  refine ⟨?_, ?_⟩
  · rw [transform_contract s hinv y, hc]
  · show Out.inverse z s.feats = Out.inverse z f
    rw [hf]

/-- `transform` and `inverse_transform` do not change the model, so a repeated call sees the
    same state (with the seeded kernels of C06 it is then bit-identical). -/
theorem transform_pure (b : Bool) (s : St) (y : Data) (z : Nat) :
    (step b s (.transform y)).1 = s ∧ (step b s (.inverseTransform z)).1 = s :=
  ⟨step_transform_fst b s y, rfl⟩

/-- the training data after a history is the original data followed by the update batches. -/
theorem raw_after (b : Bool) (s : St) (ops : List Op) :
    (run b s ops).raw = s.raw ++ ops.filterMap (fun o => match o with | .update b => some b | _ => none) := by
  unfold run
  induction ops generalizing s with
  | nil => exact (List.append_nil _).symm
  | cons o ops ih =>
    rw [List.foldl_cons, ih]
    cases o with
    | transform y => rw [step_transform_fst]; rfl
    | inverseTransform z => rfl
    | update u => exact List.append_assoc _ _ _

/-- the pinned `update` (stale fingerprint) breaks the contract: after `fit(X); update(B)`,
    `transform(X)` returns `rows(X) + rows(B)` rows. -/
theorem stale_fingerprint_breaks :
    (step true (run true (fit [(0, 50)] 2 4) [.update (1, 10)]) (.transform [(0, 50)])).2
      = .embedding 60 2 true := by decide

/-- non-vacuity: a history with two updates and transforms in between. -/
example : (run false (fit [(0, 50)] 2 4)
    [.transform [(7, 5)], .update (1, 10), .inverseTransform 3, .update (2, 10)]).raw
      = [(0, 50), (1, 10), (2, 10)] := by decide

end C10

namespace C11
open Api

/-- **C11 (graph).** `update` runs the graph stage on the stacked data with the model's own
    configuration, so its graph is the graph of a fresh fit on the stacked data. -/
theorem update_graph_eq_fresh {C G : Type} (stage : GraphCfg C → Data → G) (cfg : GraphCfg C)
    (old : Data) (b : Nat × Nat) :
    updateGraph stage false cfg old b = stage cfg (old ++ [b]) := rfl

theorem updates_eq_fresh {C G : Type} (stage : GraphCfg C → Data → G) (cfg : GraphCfg C)
    (x : Data) (bs : List (Nat × Nat)) (b : Nat × Nat) :
    updateGraph stage false cfg (x ++ bs) b = stage cfg (x ++ (bs ++ [b])) := by
  unfold updateGraph; simp

/-- the pinned `update` skipped the disconnection threshold: for a stage that depends on it the
    graphs differ. -/
theorem pinned_update_differs :
    updateGraph (fun (c : GraphCfg Unit) _ => c.threshold) true ⟨(), some 1⟩ [(0, 5)] (1, 2)
      ≠ (fun (c : GraphCfg Unit) _ => c.threshold) ⟨(), some 1⟩ ([(0, 5)] ++ [(1, 2)]) := by
  decide

/-- after an update the model satisfies the fitted-model invariant of the stacked data, so
    further updates and transforms behave as on a fresh model of that data. -/
theorem update_preserves_inv (s : St) (b : Nat × Nat) (h : C10.Inv s) :
    C10.Inv (step false s (.update b)).1 ∧ (step false s (.update b)).1.raw = s.raw ++ [b] :=
  ⟨C10.inv_step s (.update b) h, rfl⟩

/-- `init_update` is defined for every neighbour table: a new sample without any original
    neighbour keeps its initial row (the pinned code divided by the zero count). -/
theorem init_update_no_original {K : Type} [Field K] [LinearOrder K] [IsStrictOrderedRing K]
    (nOrig dim : Nat) (orig : Nat → List K) (row0 : List K) (nbrs : List Nat)
    (h : ∀ j ∈ nbrs, nOrig ≤ j) (hd : row0.length = dim) :
    Pipeline.initUpdateRow nOrig dim orig row0 nbrs = row0 := by
  unfold Pipeline.initUpdateRow
  have hf : nbrs.filter (· < nOrig) = [] := by
    rw [List.filter_eq_nil_iff]
    intro j hj; simp only [decide_eq_true_eq, not_lt]; exact h j hj
  simp only [hf, List.length_nil, Nat.zero_mul, if_true, List.foldl_nil]
  exact SrcLemmas.map_range_getD_self row0 _ hd

theorem initUpdateRow_length {α : Type} [Add α] [Div α] [OfNat α 0] [NatCast α]
    (nOrig dim : Nat) (orig : Nat → List α) (row0 : List α) (nbrs : List Nat) :
    (Pipeline.initUpdateRow nOrig dim orig row0 nbrs).length = dim := by
  simp only [Pipeline.initUpdateRow, apply_ite List.length, List.length_map, List.length_range,
    ite_self]

/-- the row only reads the original rows `< nOrig`. -/
theorem initUpdateRow_congr {α : Type} [Add α] [Div α] [OfNat α 0] [NatCast α]
    (nOrig dim : Nat) (orig orig' : Nat → List α) (row0 : List α) (nbrs : List Nat)
    (h : ∀ j, j < nOrig → orig j = orig' j) :
    Pipeline.initUpdateRow nOrig dim orig row0 nbrs
      = Pipeline.initUpdateRow nOrig dim orig' row0 nbrs := by
  have e : ∀ d, (nbrs.filter (· < nOrig)).foldl (fun acc j => acc + (orig j).getD d 0)
        (row0.getD d 0)
      = (nbrs.filter (· < nOrig)).foldl (fun acc j => acc + (orig' j).getD d 0) (row0.getD d 0) :=
    fun d => List.foldl_ext _ _ _ fun acc j hj => by
      rw [h j (by simpa using (List.mem_filter.mp hj).2)]
  simp only [Pipeline.initUpdateRow, e]

theorem init_update_length {K : Type} [Field K] [LinearOrder K] [IsStrictOrderedRing K]
    (nOrig dim : Nat) (orig : Nat → List K) (row0 : List K) (nbrs : List Nat) :
    (Pipeline.initUpdateRow nOrig dim orig row0 nbrs).length = dim :=
  initUpdateRow_length nOrig dim orig row0 nbrs

end C11
end Umap
