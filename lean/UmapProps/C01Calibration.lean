/-
  C01, continued — that the 64-step bandwidth search of `smooth_knn_dist` calibrates.

  The calibration sum is monotone and Lipschitz in the bandwidth (`length · (t - s) / s`).  The search
  doubles `mid` until the sum reaches the target, then halves a bracket that contains every solution
  of the calibration equation; so when it has not hit `break` the sum at `mid` is within
  `length · (relative width)` of the target: `search_gap` in variables, `calibration_within_tol` and
  `C01_calibration` at the live constants (64 steps, a solution in `[2⁻²⁰, 2²⁰]`, gap `≤ 1e-3`).
-/
import UmapProps.C01
import Mathlib.Analysis.Complex.ExponentialBounds

namespace Umap
namespace C01
open Knn

/-- `e⁻ᵃ - e^{-(a + a q)} ≤ q` for `q ≥ 0` (any `a`): from `1 - e⁻ˣ ≤ x` and `a e⁻ᵃ ≤ e⁻¹ ≤ 1`. -/
theorem exp_neg_sub_le (a : ℝ) {q : ℝ} (hq : 0 ≤ q) :
    Real.exp (-a) - Real.exp (-(a + a * q)) ≤ q := by
  have h1 : 1 - Real.exp (-(a * q)) ≤ a * q := sub_le_comm.1 (Real.one_sub_le_exp_neg _)
  have h3 : a * Real.exp (-a) ≤ 1 :=
    (Real.mul_exp_neg_le_exp_neg_one a).trans (Real.exp_le_one_iff.2 (neg_nonpos.2 zero_le_one))
  rw [neg_add, Real.exp_add]
  calc Real.exp (-a) - Real.exp (-a) * Real.exp (-(a * q))
      = Real.exp (-a) * (1 - Real.exp (-(a * q))) := by ring
    _ ≤ Real.exp (-a) * (a * q) := mul_le_mul_of_nonneg_left h1 (Real.exp_pos _).le
    _ = a * Real.exp (-a) * q := by ring
    _ ≤ 1 * q := mul_le_mul_of_nonneg_right h3 hq
    _ = q := one_mul q

/-- the elementary inequality behind the Lipschitz bound:
    `exp(-u/t) - exp(-u/s) ≤ (t - s)/s` for `0 < s ≤ t` (any `u`): `u/s = u/t + (u/t) (t - s)/s`. -/
theorem exp_neg_div_sub_le {u s t : ℝ} (hs : 0 < s) (hst : s ≤ t) :
    Real.exp (-(u / t)) - Real.exp (-(u / s)) ≤ (t - s) / s := by
  have e : u / s = u / t + u / t * ((t - s) / s) := by
    rw [← mul_one_add, one_add_div hs.ne', add_sub_cancel, div_mul_div_cancel₀ (hs.trans_le hst).ne']
  rw [e]
  exact exp_neg_sub_le _ (div_nonneg (sub_nonneg.2 hst) hs.le)

theorem psumTerm_lipschitz {s t : ℝ} (hs : 0 < s) (hst : s ≤ t) (r : Ext ℝ) (d : Option ℝ) :
    psumTerm realT r t d - psumTerm realT r s d ≤ (t - s) / s := by
  rcases psumTerm_shape r d with ⟨k, _, _, e⟩ | ⟨x, _, e⟩ <;> rw [e, e]
  · rw [sub_self]; exact div_nonneg (sub_nonneg.2 hst) hs.le
  · exact exp_neg_div_sub_le hs hst

/-- **Lipschitz bound**: for `0 < s ≤ t` the calibration sum grows by at most
    `length · (t - s)/s` between `s` and `t` (any rho — finite, `inf` or `nan`). -/
theorem psum_lipschitz {s t : ℝ} (hs : 0 < s) (hst : s ≤ t) (r : Ext ℝ) (ds : List (Option ℝ)) :
    psum realT r t ds - psum realT r s ds ≤ (ds.length : ℝ) * (t - s) / s := by
  rw [mul_div_assoc]
  exact sumL_map_sub_le ds _ _ _ fun d _ => psumTerm_lipschitz hs hst r d

theorem psum_continuous_lipschitz {s t : ℝ} (hs : 0 < s) (hst : s ≤ t) (r : ℝ)
    (ds : List (Option ℝ)) :
    psum realT (.fin r) t ds - psum realT (.fin r) s ds ≤ (ds.length : ℝ) * (t - s) / s :=
  psum_lipschitz hs hst (.fin r) ds

section search
variable (tol target : ℝ) (r : Ext ℝ) (ds : List (Option ℝ))

theorem bisect_zero : bisect realT tol target r ds 0 = bisectInit := rfl

/-- once the bracket is closed, `mid` is its midpoint. -/
def MidInv (s : BState ℝ) : Prop := ∀ h, s.hi = some h → s.mid = (s.lo + h) / 2

theorem bisect_midInv (n : Nat) : MidInv (bisect realT tol target r ds n) :=
  fun h hh => ((bisect_search tol target r ds n).hi_tested h hh).1

/-- `s'` comes later in the search than `s`: `lo` has not decreased and, as long as the loop has not
    broken at `s'`, it had not at `s`, a closed bracket has stayed closed and its width has halved
    `k` times. -/
structure Halved (k : ℕ) (s s' : BState ℝ) : Prop where
  lo_le : s.lo ≤ s'.lo
  not_done : s'.done = false → s.done = false
  width : ∀ h, s.hi = some h →
    ∃ h', s'.hi = some h' ∧ (s'.done = false → h' - s'.lo = (h - s.lo) / 2 ^ k)

theorem Halved.refl (s : BState ℝ) : Halved 0 s s :=
  ⟨le_rfl, id, fun h hh => ⟨h, hh, fun _ => by rw [pow_zero, div_one]⟩⟩

theorem Halved.trans {k l : ℕ} {s s' s'' : BState ℝ} (a : Halved k s s') (b : Halved l s' s'') :
    Halved (k + l) s s'' := by
  refine ⟨a.lo_le.trans b.lo_le, fun h => a.not_done (b.not_done h), fun h hh => ?_⟩
  obtain ⟨h1, e1, w1⟩ := a.width h hh
  obtain ⟨h2, e2, w2⟩ := b.width h1 e1
  exact ⟨h2, e2, fun hd => by rw [w2 hd, w1 (b.not_done hd), pow_add, div_div]⟩

/-- **one step of the search**: unless the loop breaks, the width of a closed bracket halves. -/
theorem bisectStep_rel (s : BState ℝ) (h1 : s.lo ≤ s.mid) (hm : MidInv s) :
    Halved 1 s (bisectStep realT tol target r ds s) := by
  rcases bisectStep_cases tol target r ds s with
    ⟨hd, e⟩ | ⟨_, _, e⟩ | ⟨hd, _, _, e⟩ | ⟨hd, _, _, hn, e⟩ | ⟨hd, _, _, h, hh, e⟩ <;> rw [e]
  · exact ⟨le_rfl, id, fun h hh => ⟨h, hh, fun hf => absurd hd (Bool.eq_false_iff.1 hf)⟩⟩
  · exact ⟨le_rfl, nofun, fun h hh => ⟨h, hh, nofun⟩⟩
  · refine ⟨le_rfl, id, fun h hh => ⟨s.mid, rfl, fun _ => ?_⟩⟩
    rw [hm h hh]; ring
  · exact ⟨h1, id, fun h hh => (Option.some_ne_none h (hh.symm.trans hn)).elim⟩
  · refine ⟨h1, id, fun h' hh' => ⟨h', hh', fun _ => ?_⟩⟩
    rw [hm h' hh']; ring

theorem bisect_rel {m n : Nat} (hmn : m ≤ n) :
    Halved (n - m) (bisect realT tol target r ds m) (bisect realT tol target r ds n) := by
  induction n, hmn using Nat.le_induction with
  | base => exact Nat.sub_self m ▸ Halved.refl _
  | succ n hmn ih =>
    rw [Nat.succ_sub hmn, bisect_succ]
    exact ih.trans (bisectStep_rel tol target r ds _
      (bisect_search tol target r ds n).bracket.2.1.le (bisect_midInv tol target r ds n))

/--
  **doubling phase.** As long as the bracket is open (`hi = inf`) and the loop has not hit
  `break`, after `n` iterations `mid = 2 ^ n` and (for `n ≥ 1`) `lo = 2 ^ (n - 1)`.
-/
theorem bisect_doubling (n : Nat)
    (hhi : (bisect realT tol target r ds n).hi = none)
    (hd : (bisect realT tol target r ds n).done = false) :
    (bisect realT tol target r ds n).mid = 2 ^ n
    ∧ (n = 0 ∨ (bisect realT tol target r ds n).lo * 2 = 2 ^ n) := by
  exact (bisect_search tol target r ds n).doubling hhi hd

/-- still doubling after `k + 1` iterations: the lower end is the `mid` tested last, `2 ^ k`. -/
theorem bisect_lo_of_open (k : Nat) (hhi : (bisect realT tol target r ds (k + 1)).hi = none)
    (hd : (bisect realT tol target r ds (k + 1)).done = false) :
    (bisect realT tol target r ds (k + 1)).lo = 2 ^ k :=
  mul_right_cancel₀ two_ne_zero
    (((bisect_doubling tol target r ds (k + 1) hhi hd).2.resolve_left (Nat.succ_ne_zero k)).trans
      (pow_succ 2 k))

/-- a target no bandwidth reaches (above the number of neighbours): the bracket never closes and
    the loop never breaks, so the search doubles for ever. -/
theorem bisect_open_of_unreachable (h0 : 0 ≤ tol) (h : (ds.length : ℝ) + tol ≤ target) (n : Nat) :
    (bisect realT tol target r ds n).hi = none ∧ (bisect realT tol target r ds n).done = false := by
  have H := bisect_search tol target r ds n
  refine ⟨Option.eq_none_iff_forall_ne_some.2 fun hv e => ?_, Bool.eq_false_iff.2 fun e => ?_⟩
  · -- an upper end is a point where the sum exceeds the target
    have := psum_le_length (H.mid_pos.trans (H.bracket.2.2 hv e)) r ds
    linarith [(H.hi_tested hv e).2.2]
  · -- a break is a point where the sum is within `tol` of the target
    have := psum_le_length H.mid_pos r ds
    linarith [(abs_lt.1 (H.broke e)).1]

theorem bisect_mid_of_unreachable (h0 : 0 ≤ tol) (h : (ds.length : ℝ) + tol ≤ target) (n : Nat) :
    (bisect realT tol target r ds n).mid = 2 ^ n :=
  (bisect_doubling tol target r ds n (bisect_open_of_unreachable tol target r ds h0 h n).1
    (bisect_open_of_unreachable tol target r ds h0 h n).2).1

/--
  **halving phase.** If the bracket has been closed (`hi` set) by iteration `m`, then after
  `n ≥ m` iterations without `break` it is still closed and its width is at most
  `2 ^ (m - 1) / 2 ^ (n - m)`, written `2 ^ m / 2 ^ (n - m) / 2`: the upper end was at most
  `2 ^ (m - 1)` (the doubling phase), and every further iteration halved the width.
-/
theorem bisect_width_sharp {m n : Nat} (hmn : m ≤ n) {h0 : ℝ}
    (hhi : (bisect realT tol target r ds m).hi = some h0)
    (hd : (bisect realT tol target r ds n).done = false) :
    ∃ h, (bisect realT tol target r ds n).hi = some h
      ∧ h - (bisect realT tol target r ds n).lo ≤ 2 ^ m / 2 ^ (n - m) / 2 := by
  obtain ⟨h, e, w⟩ := (bisect_rel tol target r ds hmn).width h0 hhi
  refine ⟨h, e, ?_⟩
  rw [w hd]
  have h1 := ((bisect_search tol target r ds m).hi_tested h0 hhi).2.1
  have h2 := (bisect_search tol target r ds m).bracket.1
  rw [div_right_comm]
  exact div_le_div_of_nonneg_right ((sub_le_self _ h2).trans ((le_div_iff₀ two_pos).2 h1))
    (pow_pos two_pos _).le

theorem bisect_width {m n : Nat} (hmn : m ≤ n) {h0 : ℝ}
    (hhi : (bisect realT tol target r ds m).hi = some h0)
    (hd : (bisect realT tol target r ds n).done = false) :
    ∃ h, (bisect realT tol target r ds n).hi = some h
      ∧ h - (bisect realT tol target r ds n).lo ≤ 2 ^ m / 2 ^ (n - m) := by
  obtain ⟨h, e, w⟩ := bisect_width_sharp tol target r ds hmn hhi hd
  exact ⟨h, e, le_trans w (half_le_self (by positivity))⟩

/-- the halving phase as an invariant of `bisectStep`: "not broken ⇒ the bracket is closed with
    width `≤ 2 ^ (m - 1) / 2 ^ (n - m)`" (`m` = an iteration by which the bracket was closed). -/
def WInv (m n : Nat) (s : BState ℝ) : Prop :=
  s.done = false → ∃ h, s.hi = some h ∧ h - s.lo ≤ 2 ^ m / 2 ^ (n - m) / 2

theorem winv_step {m n : Nat} (hmn : m ≤ n) (s : BState ℝ) (hb : BInv n s) (hm : MidInv s)
    (hw : WInv m n s) : WInv m (n + 1) (bisectStep realT tol target r ds s) := by
  intro hd
  have R := bisectStep_rel tol target r ds s hb.2.1.le hm
  obtain ⟨h, eh, w⟩ := hw (R.not_done hd)
  obtain ⟨h', eh', w'⟩ := R.width h eh
  refine ⟨h', eh', ?_⟩
  -- both sides are halved
  rw [w' hd, pow_one, Nat.succ_sub hmn, pow_succ, ← div_div (2 ^ m)]
  exact div_le_div_of_nonneg_right w zero_le_two

/-- the invariant holds from the iteration that closes the bracket on. -/
theorem bisect_winv {m n : Nat} (hmn : m ≤ n) {h0 : ℝ}
    (hhi : (bisect realT tol target r ds m).hi = some h0) :
    WInv m n (bisect realT tol target r ds n) :=
  fun hd => bisect_width_sharp tol target r ds hmn hhi hd

/-- with a non-positive tolerance the loop never breaks (used for non-vacuity below). -/
theorem bisect_not_done_of_tol_nonpos (htol : tol ≤ 0) (n : Nat) :
    (bisect realT tol target r ds n).done = false := by
  exact Bool.eq_false_iff.2 fun hd =>
    absurd ((bisect_search tol target r ds n).broke hd) (not_lt.2 (htol.trans (abs_nonneg _)))

end search

section calib
variable {tol target : ℝ} {r : Ext ℝ} {ds : List (Option ℝ)}

/-- **the bracket contains every solution** of the calibration equation: `lo < σ* < hi`. -/
theorem bisect_bracket_contains (htol : 0 < tol) {σs : ℝ} (hσ : 0 < σs)
    (hsol : psum realT r σs ds = target) (n : Nat) :
    (bisect realT tol target r ds n).lo < σs
    ∧ ∀ h, (bisect realT tol target r ds n).hi = some h → σs < h := by
  have H := bisect_search tol target r ds n
  constructor
  · rcases le_or_gt (bisect realT tol target r ds n).lo 0 with h | h
    · exact h.trans_lt hσ
    · exact lt_of_psum_lt hσ ((H.lo_strict htol h).trans_eq hsol.symm)
  · exact fun h hh => lt_of_psum_lt (H.mid_pos.trans (H.bracket.2.2 h hh))
      (hsol.trans_lt (H.hi_tested h hh).2.2)

/-- the doubling phase ends as soon as `2 ^ k` reaches a point where the sum is `≥ target`:
    iteration `k + 1` either breaks or closes the bracket. -/
theorem bisect_closes (htol : 0 < tol) (k : Nat) (hhigh : target ≤ psum realT r (2 ^ k) ds)
    (hd : (bisect realT tol target r ds (k + 1)).done = false) :
    ∃ h, (bisect realT tol target r ds (k + 1)).hi = some h := by
  refine Option.ne_none_iff_exists'.1 fun e => ?_
  -- still doubling: `lo = 2 ^ k` has been tested and found strictly below the target
  have hlo := bisect_lo_of_open tol target r ds k e hd
  have := (bisect_search tol target r ds (k + 1)).lo_strict htol (hlo ▸ pow_pos two_pos k)
  rw [hlo] at this
  exact absurd hhigh (not_le.2 this)

/-- monotone + Lipschitz: if the sum brackets the target on `[lo, h]`, then anywhere inside it is
    within `length · (relative width)` of the target. -/
theorem psum_gap {lo mid h : ℝ} (hlo : 0 < lo) (h1 : lo ≤ mid) (h2 : mid ≤ h)
    (hl : psum realT r lo ds ≤ target) (hh : target ≤ psum realT r h ds) :
    |psum realT r mid ds - target| ≤ (ds.length : ℝ) * (h - lo) / lo := by
  have m1 := psum_mono_sigma hlo h1 r ds
  have m2 := psum_mono_sigma (lt_of_lt_of_le hlo h1) h2 r ds
  exact (abs_sub_le_iff.2 ⟨sub_le_sub m2 hl, sub_le_sub hh m1⟩).trans
    (psum_lipschitz hlo (h1.trans h2) r ds)

/-- a bracket `(lo, h)` of width `≤ w` whose upper end stays above `q` has relative width `≤ ε ≤ 1`
    as soon as `2 w ≤ ε q`. -/
theorem relWidth_of_hi_gt {ε q w lo h : ℝ} (hε0 : 0 ≤ ε) (hε1 : ε ≤ 1) (hw : 0 < w)
    (hq : 2 * w ≤ ε * q) (h1 : h - lo ≤ w) (h2 : q < h) : 0 < lo ∧ h - lo ≤ ε * lo := by
  have hlo : q - w ≤ lo := sub_le_comm.1 ((sub_le_sub_right h2.le lo).trans h1)
  -- `ε lo ≥ ε (q - w) = ε q - ε w ≥ 2 w - w`
  have h3 : w ≤ ε * lo := by
    linear_combination hq + mul_le_mul_of_nonneg_left hlo hε0 + mul_le_of_le_one_left hw.le hε1
  exact ⟨pos_of_mul_pos_right (hw.trans_le h3) hε0, h1.trans h3⟩

/--
  **the search after `N` iterations**, for a target bracketed by the sums at `q` and `2ᵇ`
  (hypotheses through `psum` values only, no solution needed).  EITHER the loop has hit `break`
  and the sum at `mid` is within `tol` of the target, OR the bracket is closed, `0 < lo < mid < hi`,
  `psum lo < target < psum hi`, its width is at most `2ᵇ / 2^(N-b-1)`, and (monotonicity +
  Lipschitz) the sum at `mid` is within `length · ε` of the target.  `ε` bounds the relative
  width in both possible histories: the bracket closed at the first iteration (then its width has
  halved `N - 1` times, to `1 / 2^(N-1)`, while `hi` stays above `q`: `hqε`), or later (then
  `lo ≥ 1` and the width is at most `2ᵇ / 2^(N-b-1)`: `hwε`).
-/
theorem search_gap (htol : 0 < tol) {b N : ℕ} {q ε δ : ℝ} (hbN : b + 1 ≤ N) (hε1 : ε ≤ 1)
    (hwε : 2 ^ b / 2 ^ (N - (b + 1)) ≤ ε) (hqε : 2 / 2 ^ (N - 1) ≤ ε * q)
    (hlow : psum realT r q ds ≤ target) (hhigh : target ≤ psum realT r (2 ^ b) ds)
    (hδ : (ds.length : ℝ) * ε ≤ δ) :
    let s := bisect realT tol target r ds N
    (s.done = true ∧ |psum realT r s.mid ds - target| < tol)
    ∨ (s.done = false ∧ ∃ h, s.hi = some h ∧ 0 < s.lo ∧ s.lo < s.mid ∧ s.mid < h
        ∧ psum realT r s.lo ds < target ∧ target < psum realT r h ds
        ∧ h - s.lo ≤ 2 ^ b / 2 ^ (N - (b + 1))
        ∧ |psum realT r s.mid ds - target| ≤ δ) := by
  intro s
  rcases Bool.eq_false_or_eq_true s.done with hd | hd
  · exact Or.inl ⟨hd, bisect_done tol target r ds N hd⟩
  refine Or.inr ⟨hd, ?_⟩
  have h1N : 1 ≤ N := (Nat.le_add_left 1 b).trans hbN
  have hε : 0 ≤ ε := le_trans (by positivity) hwε
  -- iteration `b + 1` has closed the bracket
  obtain ⟨hb, eb⟩ := bisect_closes htol b hhigh ((bisect_rel tol target r ds hbN).not_done hd)
  obtain ⟨h, eh, hw⟩ := bisect_width_sharp tol target r ds hbN eb hd
  rw [div_right_comm, pow_succ, mul_div_cancel_right₀ _ two_ne_zero] at hw
  have H := bisect_search tol target r ds N
  have hmh := H.bracket.2.2 h eh
  have hth := (H.hi_tested h eh).2.2
  have hgt : q < h := lt_of_psum_lt (H.mid_pos.trans hmh) (hlow.trans_lt hth)
  obtain ⟨hlo_pos, hratio⟩ : 0 < s.lo ∧ h - s.lo ≤ ε * s.lo := by
    cases e1 : (bisect realT tol target r ds 1).hi with
    | some h1 =>
      -- closed by the first iteration: the width is `1 / 2^(N-1) ≤ ε q / 2`, and `q < hi`
      obtain ⟨h', eh', hw1⟩ := bisect_width_sharp tol target r ds h1N e1 hd
      cases eh.symm.trans eh'
      exact relWidth_of_hi_gt hε hε1 (by positivity)
        (by rwa [mul_div_cancel₀ _ two_ne_zero, pow_one]) hw1 hgt
    | none =>
      -- the first `mid`, `1`, became `lo`, and `lo` never decreases
      have hlo1 : (bisect realT tol target r ds 1).lo = 1 :=
        (bisect_lo_of_open tol target r ds 0 e1
          ((bisect_rel tol target r ds h1N).not_done hd)).trans (pow_zero 2)
      have h1 := hlo1 ▸ (bisect_rel tol target r ds h1N).lo_le
      exact ⟨lt_of_lt_of_le one_pos h1, hw.trans (hwε.trans (le_mul_of_one_le_right hε h1))⟩
  have hlt := H.lo_strict htol hlo_pos
  refine ⟨h, eh, hlo_pos, H.bracket.2.1, hmh, hlt, hth, hw, ?_⟩
  refine (psum_gap hlo_pos H.bracket.2.1.le hmh.le hlt.le hth.le).trans (le_trans ?_ hδ)
  rw [mul_div_assoc]
  exact mul_le_mul_of_nonneg_left ((div_le_iff₀ hlo_pos).2 hratio) (Nat.cast_nonneg _)

/-- the same with the bracketing hypotheses discharged by a solution `σ*` in `[q, 2ᵇ]`, which
    the closed bracket then contains. -/
theorem search_gap_of_solution (htol : 0 < tol) {b N : ℕ} {q ε δ σs : ℝ} (hbN : b + 1 ≤ N)
    (hε1 : ε ≤ 1) (hwε : 2 ^ b / 2 ^ (N - (b + 1)) ≤ ε) (hqε : 2 / 2 ^ (N - 1) ≤ ε * q)
    (hq : 0 < q) (h1 : q ≤ σs) (h2 : σs ≤ 2 ^ b) (hsol : psum realT r σs ds = target)
    (hδ : (ds.length : ℝ) * ε ≤ δ) :
    let s := bisect realT tol target r ds N
    (s.done = true ∧ |psum realT r s.mid ds - target| < tol)
    ∨ (s.done = false ∧ ∃ h, s.hi = some h ∧ s.lo < σs ∧ σs < h
        ∧ h - s.lo ≤ 2 ^ b / 2 ^ (N - (b + 1))
        ∧ |psum realT r s.mid ds - target| ≤ δ) := by
  intro s
  have hσ : 0 < σs := hq.trans_le h1
  obtain ⟨c1, c2⟩ := bisect_bracket_contains htol hσ hsol N
  refine (search_gap htol hbN hε1 hwε hqε (hsol ▸ psum_mono_sigma hq h1 r ds)
    (hsol ▸ psum_mono_sigma hσ h2 r ds) hδ).imp id ?_
  rintro ⟨hd, h, eh, _, _, _, _, _, hw, hc⟩
  exact ⟨hd, h, eh, c1, c2 h eh, hw, hc⟩

/-- at most `2¹⁰` neighbours and relative width `2⁻²³`: the gap is at most `1e-3`. -/
theorem live_gap_bound {len : ℕ} (hlen : len ≤ 2 ^ 10) : (len : ℝ) * (1 / 2 ^ 23) ≤ 1e-3 :=
  calc (len : ℝ) * (1 / 2 ^ 23) ≤ 2 ^ 10 * (1 / 2 ^ 23) :=
        mul_le_mul_of_nonneg_right (by exact_mod_cast hlen) (by positivity)
    _ ≤ 1e-3 := by norm_num

end calib

/--
  If some bandwidth `σ*` with `2⁻²⁰ ≤ σ* ≤ 2²⁰` solves the
  calibration equation `psum σ* = target` for a row with at most `2¹⁰` neighbours, then after the
  64 iterations (with `tol = 1e-5`) EITHER the loop has hit its `break` (sum within `tol`) OR the
  bracket `(lo, hi)` contains `σ*`, has width `≤ 2²⁰ / 2^(64-21)`, and the sum at the returned
  `mid` is within `1e-3` of the target.  (Any rho: finite, `inf` or `nan`.)
-/
theorem calibration_within_tol (target σs : ℝ) (r : Ext ℝ) (ds : List (Option ℝ))
    (h1 : 1 / 2 ^ 20 ≤ σs) (h2 : σs ≤ 2 ^ 20) (hsol : psum realT r σs ds = target)
    (hlen : ds.length ≤ 2 ^ 10) :
    let s := bisect realT 1e-5 target r ds 64
    (s.done = true ∧ |psum realT r s.mid ds - target| < 1e-5)
    ∨ (s.done = false ∧ ∃ h, s.hi = some h ∧ s.lo < σs ∧ σs < h
        ∧ h - s.lo ≤ 2 ^ 20 / 2 ^ (64 - 21)
        ∧ |psum realT r s.mid ds - target| ≤ 1e-3) := by
  exact search_gap_of_solution (tol := 1e-5) (by norm_num) (b := 20) (N := 64) (ε := 1 / 2 ^ 23)
    (by decide) (by norm_num) (by norm_num) (by norm_num) (by norm_num) h1 h2 hsol
    (live_gap_bound hlen)

theorem calibration_within_1e3 (target σs : ℝ) (r : Ext ℝ) (ds : List (Option ℝ))
    (h1 : 1 / 2 ^ 20 ≤ σs) (h2 : σs ≤ 2 ^ 20) (hsol : psum realT r σs ds = target)
    (hlen : ds.length ≤ 2 ^ 10) :
    |psum realT r (bisect realT 1e-5 target r ds 64).mid ds - target| ≤ 1e-3 := by
  rcases calibration_within_tol target σs r ds h1 h2 hsol hlen with ⟨_, h⟩ | ⟨_, _, _, _, _, _, h⟩
  · refine le_trans h.le ?_; norm_num
  · exact h

/--
  **C01 (c), full for the un-floored bandwidth.**  For a row of finite distances with finite rho,
  if the calibration equation has a solution in `[2⁻²⁰, 2²⁰]`, the membership strengths computed
  with the bandwidth found by the 64-step search total `target = log2 k` within `1e-3`.
-/
theorem C01_calibration (target σs r : ℝ) (ds : List ℝ)
    (h1 : 1 / 2 ^ 20 ≤ σs) (h2 : σs ≤ 2 ^ 20)
    (hsol : psum realT (.fin r) σs (ds.map some) = target) (hlen : ds.length ≤ 2 ^ 10) :
    let σ := (bisect realT 1e-5 target (.fin r) (ds.map some) 64).mid
    |sumL (ds.map (fun d => member realT d r σ)) - target| ≤ 1e-3 := by
  intro σ
  rw [members_sum_eq_psum (bisect_search 1e-5 target (.fin r) (ds.map some) 64).mid_pos.ne']
  exact calibration_within_1e3 target σs (.fin r) (ds.map some) h1 h2 hsol (by simpa using hlen)

private theorem exp_neg_le_half {x : ℝ} (hx : 1 ≤ x) : Real.exp (-x) ≤ 1 / 2 :=
  (Real.exp_le_exp.2 (neg_le_neg hx)).trans (Real.exp_neg_one_lt_d9.le.trans (by norm_num))

private theorem half_le_exp_neg {x : ℝ} (hx : x ≤ 1 / 2) : 1 / 2 ≤ Real.exp (-x) :=
  le_trans (by linarith) (Real.one_sub_le_exp_neg x)

private theorem ex_psum (σ : ℝ) :
    psum realT (.fin 1) σ [some 1, some 2, some 3]
      = 1 + (Real.exp (-(1 / σ)) + Real.exp (-(2 / σ))) := by
  rw [psum_cons, psum_cons, psum_cons, psum_nil, psumTerm_fin_some, psumTerm_fin_some,
    psumTerm_fin_some]
  norm_num [realT]

/-- the hypotheses of `search_gap` at the live constants are satisfiable: the row `[self, 1, 2, 3]`
    with `rho = 1` and `target = 2 = log2 4`. -/
example : psum realT (.fin 1) (1 / 2 ^ 20) [some 1, some 2, some 3] ≤ 2
    ∧ (2:ℝ) ≤ psum realT (.fin 1) (2 ^ 20) [some 1, some 2, some 3]
    ∧ [some (1:ℝ), some 2, some 3].length ≤ 2 ^ 10 := by
  have two : (1:ℝ) + (1 / 2 + 1 / 2) = 2 := by norm_num
  refine ⟨?_, ?_, by decide⟩
  · rw [ex_psum]
    refine (add_le_add le_rfl (add_le_add ?_ ?_)).trans two.le <;>
      exact exp_neg_le_half (by norm_num)
  · rw [ex_psum]
    refine two.ge.trans (add_le_add le_rfl (add_le_add ?_ ?_)) <;>
      exact half_le_exp_neg (by norm_num)

/-- `calibration_within_tol` is not vacuous: `σ* = 1` solves the equation of the row above for
    the target `1 + e⁻¹ + e⁻²`. -/
example : (1:ℝ) / 2 ^ 20 ≤ 1 ∧ (1:ℝ) ≤ 2 ^ 20
    ∧ psum realT (.fin 1) 1 [some 1, some 2, some 3] = 1 + (Real.exp (-1) + Real.exp (-2))
    ∧ [some (1:ℝ), some 2, some 3].length ≤ 2 ^ 10 := by
  refine ⟨by norm_num, by norm_num, ?_, by norm_num⟩
  rw [ex_psum]; norm_num

/-- `bisect_width` / `bisect_width_sharp` are not vacuous: for the one-neighbour row `[1]`,
    `rho = 0`, `target = 1/4`, the live tolerance, the first iteration closes the bracket
    (`e⁻¹ > 1/4`) without breaking. -/
example : (bisect realT 1e-5 (1 / 4) (.fin 0) [some 1] 1).hi = some 1
    ∧ (bisect realT 1e-5 (1 / 4) (.fin 0) [some 1] 1).done = false := by
  have hp : psum realT (.fin 0) (bisectInit : BState ℝ).mid [some 1] = Real.exp (-1) := by
    simp only [psum_cons, psum_nil, psumTerm_fin_some, sub_zero, one_pos, if_true, add_zero]
    exact congrArg (fun t => Real.exp (-t)) (div_one 1)
  -- `1/4 < 1/4 + 1e-5 < 0.3678… < e⁻¹`
  have hn : (1 / 4 : ℝ) < 1 / 4 + 1e-5 ∧ (1 / 4 : ℝ) + 1e-5 < 0.36787944116 := by norm_num
  have hgt : (1 / 4 : ℝ) + 1e-5 < Real.exp (-1) := hn.2.trans Real.exp_neg_one_gt_d9
  rw [bisect_succ, bisect_zero, bisectStep_down 1e-5 (1 / 4) (.fin 0) [some 1] rfl
    (by rw [hp]; exact (le_abs_self _).trans' (le_sub_iff_add_le'.2 hgt.le))
    (by rw [hp]; exact hn.1.trans hgt)]
  exact ⟨rfl, rfl⟩

/-- … and with tolerance `0` the "no `break`" hypothesis holds at *every* iteration count. -/
example (n : Nat) : (bisect realT 0 (1 / 4) (.fin 0) [some 1] n).done = false :=
  bisect_not_done_of_tol_nonpos 0 (1 / 4) (.fin 0) [some 1] (le_refl _) n

end C01
end Umap
