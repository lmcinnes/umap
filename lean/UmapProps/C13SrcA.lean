/-
  UmapProps.C13SrcA — the translated real-valued sparse metrics of umap/sparse.py
  (`Generated/SparseSrc.lean`, namespace `Umap.SrcSparse`) equal the hand-written model
  (`UmapModel/Sparse.lean`) on canonical CSR rows, RELATIVE to `SparseSrcSpec.CoreSpec α`
  (the translated merge helpers compute the model's merges; proved in `UmapProps/C13SrcCore.lean`).

  Every theorem here is pure list / loop manipulation: it holds for ANY scalar type carrying the
  unbundled operations (no algebraic laws), hence also for the executed `Float` instance.
-/
import UmapModel.Sparse
import Generated.SparseSrc
import UmapProofs.SparseSrcPack
import UmapProofs.SrcLemmas

namespace Umap
namespace C13SrcA
open SrcLemmas SparseSrcSpec Sparse

section helpers
variable {α : Type}

theorem inds_pack (ind : List Nat) (data : List α) (h : ind.length = data.length) :
    (pack ind data).map (·.1) = ind :=
  map_fst_pack h

theorem pack_maps_map (v : SVec α) (f : α → α) :
    pack (v.map (fun p => p.1)) ((v.map (fun p => p.2)).map f) = v.map (fun p => (p.1, f p.2)) :=
  (pack_map _ _ f).trans (congrArg _ (pack_unpack v))

theorem unpack_snd (v : SVec α) : (unpack v).2 = vals v := rfl

theorem unpack_fst_length (v : SVec α) : (unpack v).1.length = v.length := by
  simp [unpack]

end helpers

section norm
variable {α : Type} [Add α] [Mul α] [OfNat α 0]

/-- `norm` is the Euclidean norm the model's `sCosine` uses (no hypothesis at all). -/
theorem norm_src (T : Transc α) (v : List α) :
    SrcSparse.norm T v = T.sqrt (sumL (v.map (fun v => v * v))) := by
  simp only [SrcSparse.norm, map_eq_map_range v 0 rfl, sumL, List.foldl_map, SrcSparse.sq]

end norm

section index
variable {α : Type} [OfNat α 0]

/-- the stored values in index form: the loops of the source run over `range(len(aux_data))` -/
theorem map_vals {γ : Type} (z : SVec α) (f : α → γ) :
    (vals z).map f = (List.range (vals z).length).map (fun i => f ((vals z).getD i 0)) :=
  map_eq_map_range (vals z) 0 rfl f

/-- … and a plain sum written as such a loop -/
theorem foldl_add_getD [Add α] (l : List α) :
    List.foldl (fun st i => st + l.getD i 0) 0 (List.range l.length) = sumL l :=
  (foldl_eq_foldl_range l 0 rfl (fun st a => st + a) 0).symm

end index

section generic
variable {α : Type} [Add α] [Sub α] [Mul α] [Div α] [Neg α] [LT α] [LE α]
  [DecidableLT α] [DecidableLE α] [OfNat α 0] [OfNat α 1] [NatCast α] [IntCast α]

variable (H : CoreSpec α)
include H

theorem sparseEuclidean_src (T : Transc α) (ind1 : List Nat) (data1 : List α) (ind2 : List Nat)
    (data2 : List α) (hc1 : Canon ind1 data1) (hc2 : Canon ind2 data2) :
    SrcSparse.sparseEuclidean T ind1 data1 ind2 data2
      = sEuclidean T (pack ind1 data1) (pack ind2 data2) := by
  simp only [SrcSparse.sparseEuclidean, sEuclidean, H.diff ind1 data1 ind2 data2 hc1 hc2, unpack_snd, map_vals,
    sumL, List.foldl_map, SrcSparse.sq]

theorem sparseManhattan_src (ind1 : List Nat) (data1 : List α) (ind2 : List Nat)
    (data2 : List α) (hc1 : Canon ind1 data1) (hc2 : Canon ind2 data2) :
    SrcSparse.sparseManhattan ind1 data1 ind2 data2
      = sManhattan (pack ind1 data1) (pack ind2 data2) := by
  simp only [SrcSparse.sparseManhattan, sManhattan, H.diff ind1 data1 ind2 data2 hc1 hc2, unpack_snd, map_vals,
    sumL, List.foldl_map]

theorem sparseChebyshev_src (ind1 : List Nat) (data1 : List α) (ind2 : List Nat)
    (data2 : List α) (hc1 : Canon ind1 data1) (hc2 : Canon ind2 data2) :
    SrcSparse.sparseChebyshev ind1 data1 ind2 data2
      = sChebyshev (pack ind1 data1) (pack ind2 data2) := by
  simp only [SrcSparse.sparseChebyshev, sChebyshev, H.diff ind1 data1 ind2 data2 hc1 hc2, unpack_snd, map_vals,
    maxL, maxV, List.foldl_map]

/-- argument order differs: the model takes `p` first -/
theorem sparseMinkowski_src (T : Transc α) (ind1 : List Nat) (data1 : List α) (ind2 : List Nat)
    (data2 : List α) (p : α) (hc1 : Canon ind1 data1) (hc2 : Canon ind2 data2) :
    SrcSparse.sparseMinkowski T ind1 data1 ind2 data2 p
      = sMinkowski T p (pack ind1 data1) (pack ind2 data2) := by
  simp only [SrcSparse.sparseMinkowski, sMinkowski, H.diff ind1 data1 ind2 data2 hc1 hc2, unpack_snd, map_vals,
    sumL, List.foldl_map]

theorem sparseHamming_src (ind1 : List Nat) (data1 : List α) (ind2 : List Nat)
    (data2 : List α) (n_features : Nat) (hc1 : Canon ind1 data1) (hc2 : Canon ind2 data2) :
    SrcSparse.sparseHamming ind1 data1 ind2 data2 n_features
      = sHamming n_features (pack ind1 data1) (pack ind2 data2) := by
  simp only [SrcSparse.sparseHamming, sHamming, Metrics.rat, H.diff ind1 data1 ind2 data2 hc1 hc2,
    unpack_fst_length]

theorem sparseCanberra_src (ind1 : List Nat) (data1 : List α) (ind2 : List Nat)
    (data2 : List α) (hc1 : Canon ind1 data1) (hc2 : Canon ind2 data2) :
    SrcSparse.sparseCanberra ind1 data1 ind2 data2
      = sCanberra (pack ind1 data1) (pack ind2 data2) := by
  unfold SrcSparse.sparseCanberra sCanberra
  have ha1 : Canon ind1 (data1.map absV) := hc1.map absV
  have ha2 : Canon ind2 (data2.map absV) := hc2.map absV
  have hnum := (H.diffCanon ind1 data1 ind2 data2 hc1 hc2).map (absV : α → α)
  have hden := (H.sumCanon ind1 (data1.map absV) ind2 (data2.map absV) ha1 ha2).map (fun b : α => 1 / b)
  have hmul := H.mul _ _ _ _ hnum hden
  dsimp only []
  rw [H.sum ind1 _ ind2 _ ha1 ha2, H.diff ind1 data1 ind2 data2 hc1 hc2]
  simp only [unpack] at hmul ⊢
  rw [hmul, pack_maps_map, pack_maps_map, pack_map, pack_map]
  rfl

theorem sparseBrayCurtis_src (ind1 : List Nat) (data1 : List α) (ind2 : List Nat)
    (data2 : List α) (hc1 : Canon ind1 data1) (hc2 : Canon ind2 data2) :
    SrcSparse.sparseBrayCurtis ind1 data1 ind2 data2
      = sBrayCurtis (pack ind1 data1) (pack ind2 data2) := by
  simp only [SrcSparse.sparseBrayCurtis, sBrayCurtis, H.sum ind1 data1 ind2 data2 hc1 hc2,
    H.diff ind1 data1 ind2 data2 hc1 hc2, unpack_snd, isZ, beq_iff_eq]
  rfl

theorem sparseCosine_src (T : Transc α) (ind1 : List Nat) (data1 : List α) (ind2 : List Nat)
    (data2 : List α) (hc1 : Canon ind1 data1) (hc2 : Canon ind2 data2) :
    SrcSparse.sparseCosine T ind1 data1 ind2 data2
      = sCosine T (pack ind1 data1) (pack ind2 data2) := by
  simp only [SrcSparse.sparseCosine, sCosine, H.mul ind1 data1 ind2 data2 hc1 hc2, unpack_snd, norm_src,
    vals_pack hc1.1, vals_pack hc2.1, isZ, foldl_add_getD]

theorem sparseHellinger_src (T : Transc α) (ind1 : List Nat) (data1 : List α) (ind2 : List Nat)
    (data2 : List α) (hc1 : Canon ind1 data1) (hc2 : Canon ind2 data2) :
    SrcSparse.sparseHellinger T ind1 data1 ind2 data2
      = sHellinger T (pack ind1 data1) (pack ind2 data2) := by
  simp only [SrcSparse.sparseHellinger, sHellinger, H.mul ind1 data1 ind2 data2 hc1 hc2, unpack_snd, map_vals,
    vals_pack hc1.1, vals_pack hc2.1, isZ, sumL, List.foldl_map]

end generic

end C13SrcA
end Umap
