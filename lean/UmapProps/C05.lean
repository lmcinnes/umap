/-
  C05 — fit_transform returns one finite row per sample for every valid input.

  Partial by nature: what is proved is the definedness / shape logic of the stages around the
  numerical core — the per-axis rescale never divides by zero and lands in [0, 10], the scale
  factor of `noisy_scale_coords` is always defined, the truncated neighbour count is valid, the
  `unique=True` round trip returns one row per input row with identical rows for identical
  inputs, and every SGD coordinate move is bounded (from C07).  Float finiteness of the optimiser
  and of the third-party initialisers is validated by the correspondence, not proved.
-/
import UmapModel.Pipeline
import UmapProps.C07

namespace Umap
namespace C05
open Pipeline

/-! ### n_neighbors truncation -/

/-- the effective neighbour count is below the number of rows, and at least 2 as soon as there
    are 3 rows (what the graph stage needs). -/
theorem truncateK_valid (n k : Nat) (hn : 3 ≤ n) (hk : 2 ≤ k) :
    truncateK n k < n ∧ 2 ≤ truncateK n k ∧ truncateK n k ≤ k := by
  unfold truncateK
  split_ifs with h <;> omega

/-! ### unique=True: index / inverse round trip -/

theorem idxOf_lt_of_mem {β : Type} [BEq β] [LawfulBEq β] (l : List β) (x : β) (h : x ∈ l) :
    l.idxOf x < l.length := List.idxOf_lt_length_of_mem h

/-- every input row is recovered from the distinct rows through the inverse index. -/
theorem unique_roundtrip {β : Type} [BEq β] [LawfulBEq β] [Inhabited β] (xs : List β) :
    expand (distinctRows xs) (inverseIndex xs) = xs := by
  unfold expand inverseIndex distinctRows
  rw [List.map_map]
  -- each row is read back at its own first position among the distinct rows
  refine (List.map_congr_left fun x hx => ?_).trans (List.map_id xs)
  rw [Function.comp_apply, List.getD_eq_getElem?_getD,
    List.getElem?_idxOf (List.mem_eraseDups.2 hx), Option.getD_some, id]

/-- one output row per input row; identical input rows get the identical embedding row. -/
theorem unique_rows {β γ : Type} [BEq β] [LawfulBEq β] [Inhabited γ] (xs : List β) (emb : List γ) :
    (expand emb (inverseIndex xs)).length = xs.length
    ∧ ∀ i j (hi : i < xs.length) (hj : j < xs.length), xs[i] = xs[j] →
        (expand emb (inverseIndex xs))[i]'(by simp [expand, inverseIndex]; exact hi)
          = (expand emb (inverseIndex xs))[j]'(by simp [expand, inverseIndex]; exact hj) := by
  constructor
  · rw [expand, inverseIndex, List.length_map, List.length_map]
  · intro i j hi hj h
    simp only [expand, inverseIndex, List.getElem_map, h]

/-! ### rescaling of the initial layout -/

section Field
variable {K : Type} [Field K] [LinearOrder K] [IsStrictOrderedRing K]

theorem rescale10_of_lt (mn mx x : K) (h : mn < mx) :
    rescale10 mn mx x = 10 * (x - mn) / (mx - mn) := by
  have : eqV (mx - mn) 0 = false := (eqV_eq_false_iff _ 0).2 (sub_ne_zero.2 h.ne')
  simp only [rescale10, this, Bool.false_eq_true, if_false, Nat.cast_ofNat]

/-- a non-constant axis is mapped into `[0, 10]`. -/
theorem rescale_range (mn mx x : K) (h : mn < mx) (h1 : mn ≤ x) (h2 : x ≤ mx) :
    0 ≤ rescale10 mn mx x ∧ rescale10 mn mx x ≤ 10 := by
  have hpos : 0 < mx - mn := sub_pos.2 h
  have h10 : (0 : K) ≤ 10 := Nat.ofNat_nonneg 10
  rw [rescale10_of_lt mn mx x h]
  exact ⟨div_nonneg (mul_nonneg h10 (sub_nonneg.2 h1)) hpos.le,
    (div_le_iff₀ hpos).2 (mul_le_mul_of_nonneg_left (sub_le_sub_right h2 mn) h10)⟩

/-- a constant axis is mapped to 0 — no division by the zero range (the pinned revision of umap
    computed 0/0 here; `rescale10` models the repaired code). -/
theorem rescale_constant_axis (c : K) : rescale10 c c c = 0 := by
  unfold rescale10
  simp only [sub_self, mul_zero, zero_div]

/-- the scale factor of `noisy_scale_coords` is defined and positive for every layout, the
    all-zero one included. -/
theorem expansion_pos (maxCoord maxAbs : K) (hm : 0 < maxCoord) (ha : 0 ≤ maxAbs) :
    0 < expansion maxCoord maxAbs := by
  unfold expansion
  split_ifs with h
  · exact div_pos hm h
  · exact one_pos

/-- one SGD write moves a coordinate by at most `4 α` (`C07.move_le_four_alpha`): in exact
    arithmetic no single step of the optimiser is unbounded. -/
theorem sgd_moves_bounded (cur gc diff alpha : K) (ha : 0 ≤ alpha) :
    |(cur + Sgd.clip (gc * diff) * alpha) - cur| ≤ 4 * alpha :=
  C07.move_le_four_alpha cur gc diff alpha ha

end Field

example : expand (distinctRows [3, 5, 3, 7, 5]) (inverseIndex [3, 5, 3, 7, 5]) = [3, 5, 3, 7, 5] := by
  decide
example : truncateK 9 15 = 8 := by decide
example : rescale10 (2 : ℚ) 7 4 = 4 := by decide +kernel

end C05
end Umap
