/-
  C07 — layout optimisation performs exactly the UMAP stochastic gradient descent.

  Model: `Umap.Sgd` (layouts.py `_optimize_layout_euclidean_single_epoch`,
  `optimize_layout_euclidean`; umap_.py `make_epochs_per_sample`) and `Umap.Rng`
  (utils.py `tau_rand_int`).  Theorems are over ℝ (coefficients), over any linear ordered
  field (clocks, clip, learning rate) and over `Nat`/`Int` (negative-sample index).

  The facts about what an epoch leaves alone ((e) here; C04(c) in C07More; the clocks of the
  state in C07Clocks) are proved once for the loop shape that the euclidean and the
  generic-metric kernel share: `sampledStep`, `Blind`, `loops_proj`.
-/
import UmapProofs.Basic
import UmapProofs.RealT
import UmapModel.Sgd

namespace Umap
namespace C07
open Sgd

/-! ### (a) the sampling clock: an edge of weight w is used ⌊(N-1)/eps⌋ ≈ N·w/w_max times -/

section
variable {α : Type} [Add α] [LE α] [DecidableLE α] [NatCast α]

theorem runClock_succ (eps : α) (N : Nat) :
    runClock eps (N + 1) = edgeClock eps (runClock eps N) N :=
  foldl_range_succ _ _ N

theorem edgeClock_due {eps : α} {st : α × Nat} {n : Nat} (h : st.1 ≤ (n : α)) :
    edgeClock eps st n = (st.1 + eps, st.2 + 1) := if_pos h

theorem edgeClock_not_due {eps : α} {st : α × Nat} {n : Nat} (h : ¬ st.1 ≤ (n : α)) :
    edgeClock eps st n = st := if_neg h

end

theorem floor_div_eq {K : Type} [Field K] [LinearOrder K] [IsStrictOrderedRing K] [FloorSemiring K]
    {p x : K} {c : Nat} (hp : 0 < p) (lo : (c : K) * p ≤ x) (hi : x < ((c : K) + 1) * p) :
    ⌊x / p⌋₊ = c :=
  Nat.floor_eq_on_Ico c _ ⟨(le_div_iff₀ hp).2 lo, (div_lt_iff₀ hp).2 hi⟩

section Clock
variable {K : Type} [Field K] [LinearOrder K] [IsStrictOrderedRing K]

/-- at the start of epoch `N` the clock reads `(c+1)·eps` and is ahead of epoch `N - 1`, and the
    `c` visits so far fit into the epochs `0 .. N-1`: `c = ⌊(N-1)/eps⌋`. -/
theorem runClock_inv (eps : K) (h1 : 1 ≤ eps) (N : Nat) :
    (runClock eps N).1 = (((runClock eps N).2 : K) + 1) * eps
      ∧ ((runClock eps N).2 : K) * eps ≤ ((N - 1 : Nat) : K)
      ∧ (N : K) - 1 < (runClock eps N).1 := by
  induction N with
  | zero =>
    simp only [runClock, List.range_zero, List.foldl_nil, Nat.cast_zero, zero_add, one_mul, zero_mul,
      zero_sub]
    exact ⟨trivial, Nat.cast_nonneg _, (neg_neg_of_pos one_pos).trans (one_pos.trans_le h1)⟩
  | succ N ih =>
    obtain ⟨e, lo, hi⟩ := ih
    rw [runClock_succ, Nat.add_sub_cancel, Nat.cast_succ, add_sub_cancel_right]
    by_cases h : (runClock eps N).1 ≤ N
    · -- visited: the clock and the count advance together; `N - 1 < clock` and `1 ≤ eps` add up
      rw [edgeClock_due h]
      refine ⟨?_, ?_, ?_⟩ <;> dsimp only
      · rw [Nat.cast_succ, add_one_mul (α := K), ← e]
      · rw [Nat.cast_succ, ← e]; exact h
      · exact (sub_add_cancel (N : K) 1).symm.trans_lt (add_lt_add_of_lt_of_le hi h1)
    · rw [edgeClock_not_due h]
      exact ⟨e, lo.trans (Nat.mono_cast (Nat.sub_le _ _)), not_le.1 h⟩

theorem clock_inv (eps : K) (h1 : 1 ≤ eps) (n : Nat) :
    let r := runClock eps (n + 1)
    r.1 = ((r.2 : K) + 1) * eps ∧ (r.2 : K) * eps ≤ n ∧ (n : K) < ((r.2 : K) + 1) * eps := by
  obtain ⟨e, lo, hi⟩ := runClock_inv eps h1 (n + 1)
  rw [Nat.add_sub_cancel] at lo
  rw [Nat.cast_succ, add_sub_cancel_right, e] at hi
  exact ⟨e, lo, hi⟩

/-- **(a)** hence the number of uses in `N ≥ 1` epochs differs from `N / eps = N·w/w_max`
    by less than 1 + 1/eps ≤ 2. -/
theorem visits_proportional (eps : K) (h1 : 1 ≤ eps) (n : Nat) :
    let c := (runClock eps (n + 1)).2
    ((n + 1 : Nat) : K) / eps - 2 < c ∧ (c : K) ≤ ((n + 1 : Nat) : K) / eps := by
  obtain ⟨-, lo, hi⟩ := clock_inv eps h1 n
  have hpos : 0 < eps := one_pos.trans_le h1
  intro c
  rw [sub_lt_iff_lt_add, div_lt_iff₀ hpos, le_div_iff₀ hpos, Nat.cast_succ,
    ← one_add_one_eq_two, ← add_assoc, add_one_mul]
  exact ⟨add_lt_add_of_lt_of_le hi h1, lo.trans (le_add_of_nonneg_right zero_le_one)⟩

/-- edges weaker than `w_max / N` (`eps > N - 1` suffices) are never used. -/
theorem pruned_never_due (eps : K) (N : Nat) (h : ((N : K) - 1) < eps) :
    runClock eps N = (eps, 0) := by
  induction N with
  | zero => rfl
  | succ N ih =>
    rw [Nat.cast_succ, add_sub_cancel_right] at h
    rw [runClock_succ, ih ((sub_one_lt _).trans h), edgeClock_not_due (not_le.2 h)]

theorem nonpos_period_le (eps : K) (h : eps ≤ 0) (N : Nat) : ((N : K) + 1) * eps ≤ N := by
  rw [← Nat.cast_succ]
  exact (mul_nonpos_of_nonneg_of_nonpos (Nat.cast_nonneg _) h).trans (Nat.cast_nonneg N)

/-- a non-positive period makes the edge due in every epoch: after `N` epochs the clock reads
    `(N+1)·eps` (not ahead of epoch `N`: `nonpos_period_le`) and the edge has been used `N` times. -/
theorem nonpos_period_always_due (eps : K) (h : eps ≤ 0) (N : Nat) :
    runClock eps N = (((N : K) + 1) * eps, N) := by
  induction N with
  | zero => rw [Nat.cast_zero, zero_add, one_mul]; rfl
  | succ N ih =>
    rw [runClock_succ, ih, edgeClock_due (nonpos_period_le eps h N), Nat.cast_succ,
      add_one_mul (α := K) (N + 1)]

/-- `make_epochs_per_sample`: for a positive weight the period is `w_max / w`. -/
theorem eps_eq (w wmax : K) (N : Nat) (hN : 0 < N) (hw : 0 < w) (hm : 0 < wmax) :
    (let ns := (N : K) * (w / wmax); if 0 < ns then (N : K) / ns else -1) = wmax / w := by
  have hN' : (0 : K) < N := Nat.cast_pos.2 hN
  rw [if_pos (mul_pos hN' (div_pos hw hm)), ← div_div, div_self hN'.ne', one_div_div]

/-! ### (d) clip -/

theorem clip_abs (x : K) : |clip x| ≤ 4 := by
  unfold clip
  simp only [Nat.cast_ofNat]
  have h4 : |(4 : K)| = 4 := Nat.abs_ofNat 4
  split_ifs with h1 h2
  · exact h4.le
  · exact (abs_neg _).trans_le h4.le
  · exact abs_le.2 ⟨not_lt.1 h2, not_lt.1 h1⟩

theorem clip_id {x : K} (h : |x| ≤ 4) : clip x = x := by
  unfold clip
  simp only [Nat.cast_ofNat]
  rw [abs_le] at h
  rw [if_neg (not_lt.2 h.2), if_neg (not_lt.2 h.1)]

theorem write_le (cur g alpha B : K) (ha : 0 ≤ alpha) (hg : |g| ≤ B) :
    |cur + g * alpha - cur| ≤ B * alpha := by
  rw [add_sub_cancel_left, abs_mul, abs_of_nonneg ha]
  exact mul_le_mul_of_nonneg_right hg ha

/-- **(d)** every elementary coordinate write moves the coordinate by at most `4·α`. -/
theorem move_le_four_alpha (cur gc diff alpha : K) (ha : 0 ≤ alpha) :
    |(cur + clip (gc * diff) * alpha) - cur| ≤ 4 * alpha :=
  write_le _ _ _ 4 ha (clip_abs _)

/-! ### (d) the learning rate decays linearly from α₀ -/

theorem alpha_formula (a0 : K) (N n : Nat) (hn : 0 < n) :
    alphaAt a0 N n = a0 * (1 - ((n - 1 : Nat) : K) / (N : K)) := by
  unfold alphaAt; rw [if_neg (Nat.pos_iff_ne_zero.1 hn)]

theorem alpha_zero (a0 : K) (N : Nat) : alphaAt a0 N 0 = a0 := if_pos rfl

theorem alphaAt_succ (a0 : K) (N n : Nat) : alphaAt a0 N (n + 1) = a0 * (1 - (n : K) / N) :=
  alpha_formula a0 N (n + 1) n.succ_pos

theorem alpha_linear (a0 : K) (N n : Nat) (hN : 0 < N) :
    alphaAt a0 N (n + 1) - alphaAt a0 N (n + 2) = a0 / N := by
  rw [alphaAt_succ, alphaAt_succ]; push_cast; ring

theorem alpha_pos (a0 : K) (N n : Nat) (h0 : 0 < a0) (hn : n < N) : 0 < alphaAt a0 N n := by
  cases n with
  | zero => exact h0
  | succ n =>
    rw [alphaAt_succ]
    have hN : (0 : K) < N := Nat.cast_pos.2 (Nat.zero_lt_of_lt hn)
    have : (n : K) < N := Nat.cast_lt.2 (Nat.lt_of_succ_lt hn)
    exact mul_pos h0 (sub_pos.2 ((div_lt_one hN).2 this))

theorem alpha_antitone (a0 : K) (N n : Nat) (h0 : 0 ≤ a0) (hN : 0 < N) :
    alphaAt a0 N (n + 1) ≤ alphaAt a0 N n := by
  cases n with
  | zero => rw [alphaAt_succ, alpha_zero, Nat.cast_zero, zero_div, sub_zero, mul_one]
  | succ n =>
    rw [← sub_nonneg, alpha_linear a0 N n hN]
    exact div_nonneg h0 (Nat.cast_nonneg N)

end Clock

/-! ### (b), (c) the coefficients are the property's closed forms in the distance d -/

/-- the model works with the squared distance. -/
theorem sq_rpow (d b : ℝ) (hd : 0 ≤ d) : (d ^ (2 : ℕ)) ^ b = d ^ (2 * b) :=
  (Real.rpow_natCast_mul hd 2 b).symm

/-- **(b)** with `d > 0` and `d² = dist_squared`, the coded attractive coefficient equals
    `-2ab d^(2b-2) / (1 + a d^(2b))`. -/
theorem attract_coeff_eq (a b d : ℝ) (hd : 0 < d) :
    attractCoeff realT a b (d ^ (2 : ℕ)) = (-2 * a * b * d ^ (2 * b - 2)) / (1 + a * d ^ (2 * b)) := by
  have h2 : (0 : ℝ) < d ^ (2 : ℕ) := by positivity
  simp only [attractCoeff, if_pos h2, realT, Nat.cast_ofNat, sq_rpow d _ hd.le, mul_sub, mul_one,
    add_comm]

/-- **(c)** the coded repulsive coefficient equals `2γb / ((0.001 + d²)(1 + a d^(2b)))`. -/
theorem repulse_coeff_eq (a b gamma d : ℝ) (hd : 0 < d) :
    repulseCoeff realT a b gamma (d ^ (2 : ℕ))
      = (2 * gamma * b) / ((0.001 + d ^ (2 : ℕ)) * (1 + a * d ^ (2 * b))) := by
  unfold repulseCoeff
  simp only [realT, Nat.cast_ofNat]
  rw [sq_rpow d b hd.le, show (1 : ℝ) / 1000 = 0.001 by norm_num]
  congr 1
  ring

/-- no denominator of a step vanishes: `a d²ᵇ + 1 > 0` and `0.001 + d² > 0` for `a ≥ 0`. -/
theorem denominators_pos (a b d2 : ℝ) (ha : 0 ≤ a) (hd : 0 ≤ d2) :
    0 < a * d2 ^ b + 1 ∧ 0 < (1 : ℝ) / 1000 + d2 := by
  exact ⟨add_pos_of_nonneg_of_pos (mul_nonneg ha (Real.rpow_nonneg hd b)) one_pos,
    add_pos_of_pos_of_nonneg (by norm_num) hd⟩

/-! ### (c) the negative-sample vertex is a valid index -/

theorem neg_index_in_range (r : Int) (n : Nat) (hn : 0 < n) : Rng.floorMod r n < n := by
  unfold Rng.floorMod
  have hn' : (0 : Int) < n := by exact_mod_cast hn
  have h1 := Int.emod_nonneg r (ne_of_gt hn')
  have h2 := Int.emod_lt_of_pos r hn'
  omega

theorem draw_in_range (st : Rng.RState) (n : Nat) (hn : 0 < n) : (Rng.drawVertex st n).2 < n := by
  unfold Rng.drawVertex
  exact neg_index_in_range _ n hn

section Writes
variable {α : Type}

theorem getElem!_modify_of_ne {β : Type} [Inhabited β] (a : Array β) (j v : Nat) (f : β → β)
    (h : j ≠ v) : (a.modify j f)[v]! = a[v]! := by
  rw [getElem!_def, getElem!_def, Array.getElem?_modify, if_neg h]

theorem setHead_head_ne (s : State α) (j d v : Nat) (x : α) (h : j ≠ v) :
    (setHead s j d x).head[v]! = s.head[v]! :=
  -- (`f` is given: left to find it, the unifier unfolds the array operations)
  getElem!_modify_of_ne s.head j v (fun row => row.set! d x) h

theorem setTail_head_ne (P : Params α) (s : State α) (k d v : Nat) (x : α)
    (h : P.aliased = true → k ≠ v) : (setTail P s k d x).head[v]! = s.head[v]! := by
  unfold setTail
  split_ifs with ha
  · exact getElem!_modify_of_ne s.head k v (fun row => row.set! d x) (h ha)
  · rfl

/-- `π` is blind to writes into head row `j`, into tail row `k` when the tail moves, and into rng
    cell `j`: the only things the moves of an edge with head `j` and tail `k` write. -/
structure Blind {γ : Type} (P : Params α) (j k : Nat) (π : State α → γ) : Prop where
  setHead : ∀ t d x, π (setHead t j d x) = π t
  setTail : P.moveOther = true → ∀ t d x, π (setTail P t k d x) = π t
  rng : ∀ (t : State α) x, π { t with rng := t.rng.set! j x } = π t

theorem blind_tail (P : Params α) (hm : P.moveOther = false) (j k : Nat) :
    Blind P j k (fun t : State α => t.tail) :=
  ⟨fun _ _ _ => rfl, fun h => absurd (hm ▸ h) Bool.false_ne_true, fun _ _ => rfl⟩

theorem blind_head (P : Params α) (j k v : Nat) (hj : j ≠ v)
    (hk : P.aliased = true ∧ P.moveOther = true → k ≠ v) :
    Blind P j k (fun t : State α => t.head[v]!) :=
  ⟨fun t d x => setHead_head_ne t j d v x hj,
   fun hm t d x => setTail_head_ne P t k d v x (fun ha => hk ⟨ha, hm⟩), fun _ _ => rfl⟩

variable {γ : Type} {π : State α → γ}

/-- `runEpochs`, `runEpochsDens`, `genRunEpochs` are all of this form (`t0`: the state at the
    start of the epoch, which densMAP's term may depend on). -/
theorem loops_proj (step : Nat → State α → State α → Nat → State α) (M : Nat)
    (h : ∀ n t0 t, ∀ i < M, π (step n t0 t i) = π t) (N : Nat) (s : State α) :
    π ((List.range N).foldl (fun s n => (List.range M).foldl (step n s) s) s) = π s :=
  foldl_proj_mem π _ _ (fun t n _ =>
    foldl_proj_mem π _ _ (fun u i hi => h n t u i (List.mem_range.1 hi)) t) s

end Writes

section Step
variable {α : Type} [Add α] [Sub α] [Mul α] [Div α] [LE α] [DecidableLE α] [NatCast α] [Inhabited α]

/-- `epoch_of_next_sample[i] += epochs_per_sample[i]`. -/
def bumpEons (eps : Array α) (i : Nat) (s : State α) : State α :=
  { s with eons := s.eons.set! i (s.eons[i]! + eps[i]!) }

/-- `epoch_of_next_negative_sample[i] += n_neg_samples * epochs_per_negative_sample[i]`. -/
def bumpEonns (T : Transc α) (epns : Array α) (i : Nat) (nNeg : Int) (s : State α) : State α :=
  { s with eonns := s.eonns.set! i (s.eonns[i]! + T.ofInt nNeg * epns[i]!) }

/-- `n_neg_samples = int((n - eonns[i]) / epns[i])` samples, then the negative clock advance. -/
def negPhase (T : Transc α) (epns : Array α) (n : Nat) (neg : State α → State α) (i : Nat)
    (s : State α) : State α :=
  let nNeg := T.trunc (((n : α) - s.eonns[i]!) / epns[i]!)
  bumpEonns T epns i nNeg ((List.range nNeg.toNat).foldl (fun s _ => neg s) s)

/-- the body of the `for i` loop of `_optimize_layout_euclidean_single_epoch` and of
    `_optimize_layout_generic_single_epoch` (layouts.py) with the two moves left open: clock test;
    attractive move `att`; positive clock advance; negative-sample phase with `neg`.
    `genEdgeStep` is this by definition, `edgeStep` after a case split (`edgeStep_eq_sampled`). -/
def sampledStep (T : Transc α) (eps epns : Array α) (n : Nat) (att neg : State α → State α)
    (s : State α) (i : Nat) : State α :=
  if s.eons[i]! ≤ (n : α) then negPhase T epns n neg i (bumpEons eps i (att s)) else s

variable {γ : Type} {π : State α → γ} (T : Transc α) (eps epns : Array α) (n : Nat)
  {att neg : State α → State α}

theorem sampledStep_proj (hatt : ∀ t, π (att t) = π t) (hneg : ∀ t, π (neg t) = π t)
    (he : ∀ (t : State α) a, π { t with eons := a } = π t)
    (hn : ∀ (t : State α) a, π { t with eonns := a } = π t) (s : State α) (i : Nat) :
    π (sampledStep T eps epns n att neg s i) = π s := by
  unfold sampledStep negPhase bumpEons bumpEonns
  dsimp only
  rw [apply_ite π, hn, foldl_proj_mem π _ _ (fun t _ _ => hneg t), he, hatt, ite_self]

end Step

/-! ### (e) the reference layout is never moved when embedding new points -/

section Frozen
variable {α : Type} [Add α] [Sub α] [Mul α] [Div α] [Neg α] [LT α] [LE α]
  [DecidableLT α] [DecidableLE α] [OfNat α 0] [OfNat α 1] [NatCast α] [Inhabited α]

theorem setHead_tail (s : State α) (j d : Nat) (v : α) : (setHead s j d v).tail = s.tail := rfl

/-- the attractive move of `edgeStep` as a function of the state alone. -/
def eucAtt (T : Transc α) (rnd : α → α) (P : Params α) (alpha : α) (cor : Option (α → α))
    (j k : Nat) (s : State α) : State α :=
  attractMove rnd P alpha (attractCoeff T P.a P.b (rdist rnd s.head[j]! (tailRow P s k) P.dim))
    (cor.map (fun f => f (rdist rnd s.head[j]! (tailRow P s k) P.dim))) j k s

theorem edgeStep_eq_sampled (T : Transc α) (rnd : α → α) (P : Params α) (hd tl : Array Nat)
    (eps epns : Array α) (alpha : α) (n : Nat) (cor : Option (Nat → α → α)) (s : State α) (i : Nat) :
    edgeStep T rnd P hd tl eps epns alpha n cor s i
      = sampledStep T eps epns n (eucAtt T rnd P alpha (cor.map (· i)) hd[i]! tl[i]!)
          (negSample T rnd P alpha hd[i]!) s i := by
  cases cor <;> rfl

section
variable {γ : Type} {P : Params α} {j k : Nat} {π : State α → γ}

/-- the tail write of both attractive moves: made only with `move_other`. -/
theorem Blind.setTail_if (h : Blind P j k π) (t : State α) (d : Nat) (x : α) :
    π (if P.moveOther = true then Sgd.setTail P t k d x else t) = π t := by
  split_ifs with hm
  · exact h.setTail hm t d x
  · rfl

theorem Blind.attractMove (h : Blind P j k π) (rnd : α → α) (alpha gc : α) (cor : Option α)
    (s : State α) : π (attractMove rnd P alpha gc cor j k s) = π s := by
  unfold Sgd.attractMove
  refine foldl_proj_mem π _ _ (fun t d _ => ?_) s
  dsimp only
  rw [h.setTail_if, h.setHead]

theorem Blind.negSample (h : Blind P j k π) (T : Transc α) (rnd : α → α) (alpha : α)
    (s : State α) : π (negSample T rnd P alpha j s) = π s := by
  unfold Sgd.negSample
  dsimp only
  -- `π` of the moving branch is `π` of the other: both are the state after the draw
  rw [apply_ite π, foldl_proj_mem π _ _ (fun t d _ => h.setHead t d _), ite_self, h.rng]

theorem Blind.genAttractMove (h : Blind P j k π) (T : Transc α) (rnd : α → α) (eps6 alpha : α)
    (metric : Array α → Array α → α × Array α) (s : State α) :
    π (genAttractMove T rnd P eps6 alpha metric j k s) = π s := by
  unfold Sgd.genAttractMove
  refine foldl_proj_mem π _ _ (fun t d _ => ?_) s
  dsimp only
  rw [h.setTail_if, h.setHead]

theorem Blind.genNegSample (h : Blind P j k π) (T : Transc α) (rnd : α → α) (eps6 alpha : α)
    (metric : Array α → Array α → α × Array α) (s : State α) :
    π (genNegSample T rnd P eps6 alpha metric j s) = π s := by
  unfold Sgd.genNegSample
  dsimp only
  rw [apply_ite π, foldl_proj_mem π _ _ (fun t d _ => h.setHead t d _), ite_self, h.rng]

end

theorem edgeStep_blind {γ : Type} {T : Transc α} {rnd : α → α} {P : Params α} {hd tl : Array Nat}
    {eps epns : Array α} {alpha : α} {n : Nat} {cor : Option (Nat → α → α)} {i : Nat}
    {π : State α → γ} (h : Blind P hd[i]! tl[i]! π)
    (he : ∀ (t : State α) a, π { t with eons := a } = π t)
    (hn : ∀ (t : State α) a, π { t with eonns := a } = π t) (s : State α) :
    π (edgeStep T rnd P hd tl eps epns alpha n cor s i) = π s := by
  rw [edgeStep_eq_sampled]
  exact sampledStep_proj T eps epns n (fun t => h.attractMove rnd alpha _ _ t)
    (fun t => h.negSample T rnd alpha t) he hn s i

theorem genEdgeStep_blind {γ : Type} {T : Transc α} {rnd : α → α} {P : Params α} {eps6 : α}
    {metric : Array α → Array α → α × Array α} {hd tl : Array Nat}
    {eps epns : Array α} {alpha : α} {n : Nat} {i : Nat}
    {π : State α → γ} (h : Blind P hd[i]! tl[i]! π)
    (he : ∀ (t : State α) a, π { t with eons := a } = π t)
    (hn : ∀ (t : State α) a, π { t with eonns := a } = π t) (s : State α) :
    π (genEdgeStep T rnd P eps6 metric hd tl eps epns alpha n s i) = π s :=
  sampledStep_proj T eps epns n (fun t => h.genAttractMove T rnd eps6 alpha metric t)
    (fun t => h.genNegSample T rnd eps6 alpha metric t) he hn s i

/--
  **(e)** With `move_other = False`, for all graphs, layouts, parameters, seeds and epochs, the
  tail (reference) buffer after the optimisation is the tail buffer before it.  When the buffers
  are separate (`aliased = false`, as in `transform`) this is the statement that the reference
  layout is never moved.
-/
theorem frozen_tail (T : Transc α) (rnd : α → α) (P : Params α) (hm : P.moveOther = false)
    (hd tl : Array Nat) (eps epns : Array α) (alpha0 : α) (N : Nat) (s : State α) :
    (runEpochs T rnd P hd tl eps epns alpha0 N s).tail = s.tail :=
  loops_proj (fun n _ => edgeStep T rnd P hd tl eps epns (alphaAt alpha0 N n) n none) _
    (fun _ _ t _ _ => edgeStep_blind (blind_tail P hm _ _) (fun _ _ => rfl) (fun _ _ => rfl) t) N s

end Frozen

example : (runClock (2 : ℚ) 7).2 = 3 := by decide +kernel      -- ⌊(7-1)/2⌋
example : runClock (8 : ℚ) 7 = (8, 0) := by decide +kernel      -- weaker than w_max / N: never used

end C07
end Umap
