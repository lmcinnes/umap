/-
  C12SrcA — the real-valued dense metrics of umap/distances.py as translated (`Generated/DistSrc.lean`, namespace
  `Umap.Src`) equal the hand-written model (`UmapModel/Metrics.lean`), for vectors of equal length and any scalar
  type.  `hamming`, `canberra`, `hellinger` each need a law of the scalars (the casts of `0` and of a successor,
  `a + 0 = a`, `maxV v 0 = maxV 0 v`): it is a named hypothesis of the `_generic` form and is discharged over
  ordered fields.  For the way these proofs go see `UmapProofs/SrcLemmas.lean`.
-/
import UmapModel.Metrics
import Generated.DistSrc
import UmapProofs.SrcLemmas
import UmapProofs.Basic

set_option linter.unusedSectionVars false -- the `_src` statements

namespace Umap
namespace C12SrcA
open SrcLemmas

/-- a float counter (`n += 1` under a guard, started at a natural number) is the cast of the count -/
theorem foldl_counter {α : Type} [Add α] [OfNat α 1] [NatCast α]
    (hcs : ∀ n : Nat, ((n + 1 : Nat) : α) = (n : α) + 1) {γ : Type} (c : γ → Bool) (l : List γ) (k : Nat) :
    l.foldl (fun st i => if c i then st + 1 else st) ((k : Nat) : α) = ((k + l.countP c : Nat) : α) := by
  induction l generalizing k with
  | nil => rfl
  | cons i l ih =>
    rw [List.foldl_cons, List.countP_cons]
    split
    · rw [← hcs, ih, Nat.add_assoc, Nat.add_comm 1]
    · rw [ih]; rfl

section generic
variable {α : Type} [Add α] [Sub α] [Mul α] [Div α] [Neg α] [LT α] [LE α]
  [DecidableLT α] [DecidableLE α] [OfNat α 0] [OfNat α 1] [NatCast α]

theorem euclidean_src (T : Transc α) (x y : List α) (h : x.length = y.length) :
    Src.euclidean T x y = Metrics.euclidean T x y := by
  simp only [Src.euclidean, Metrics.euclidean, Metrics.diffs, zip_eq_map_range x y 0 0 rfl h.symm,
    sumL, List.foldl_map, Src.sq]

theorem manhattan_src (x y : List α) (h : x.length = y.length) :
    Src.manhattan x y = Metrics.manhattan x y := by
  simp only [Src.manhattan, Metrics.manhattan, Metrics.diffs, zip_eq_map_range x y 0 0 rfl h.symm,
    sumL, List.foldl_map]

theorem chebyshev_src (x y : List α) (h : x.length = y.length) :
    Src.chebyshev x y = Metrics.chebyshev x y := by
  simp only [Src.chebyshev, Metrics.chebyshev, Metrics.diffs, zip_eq_map_range x y 0 0 rfl h.symm,
    maxL, maxV, List.foldl_map]

theorem minkowski_src (T : Transc α) (p : α) (x y : List α) (h : x.length = y.length) :
    Src.minkowski T x y p = Metrics.minkowski T p x y := by
  simp only [Src.minkowski, Metrics.minkowski, Metrics.diffs, zip_eq_map_range x y 0 0 rfl h.symm,
    sumL, List.foldl_map]

theorem standardisedEuclidean_src (T : Transc α) (sigma x y : List α)
    (h : x.length = y.length) (hs : x.length = sigma.length) :
    Src.standardisedEuclidean T x y sigma = Metrics.seuclidean T sigma x y := by
  simp only [Src.standardisedEuclidean, Metrics.seuclidean, Metrics.diffs,
    zip_eq_map_range x y 0 0 rfl h.symm, List.map_map, map_range_zip _ sigma 0 hs.symm,
    sumL, List.foldl_map, Src.sq, Function.comp_def]

theorem weightedMinkowski_src (T : Transc α) (w : List α) (p : α) (x y : List α)
    (h : x.length = y.length) (hw : x.length = w.length) :
    Src.weightedMinkowski T x y w p = Metrics.wminkowski T w p x y := by
  simp only [Src.weightedMinkowski, Metrics.wminkowski, Metrics.diffs,
    zip_eq_map_range x y 0 0 rfl h.symm, List.map_map, map_range_zip _ w 0 hw.symm,
    sumL, List.foldl_map, Function.comp_def]

theorem brayCurtis_src (x y : List α) (h : x.length = y.length) :
    Src.brayCurtis x y = Metrics.brayCurtis x y := by
  simp only [Src.brayCurtis, foldl_add_pair, Metrics.brayCurtis, zip_eq_map_range x y 0 0 rfl h.symm, sumL,
    List.foldl_map]

theorem poincare_src (T : Transc α) (u v : List α) :
    Src.poincare T u v = Metrics.poincare T u v := by
  simp only [Src.poincare, Metrics.poincare, Metrics.dot, Metrics.diffs, Metrics.two,
    List.zip_eq_zipWith, List.map_zipWith, Src.sq]

theorem mahalanobis_src (T : Transc α) (vinv : List (List α)) (x y : List α)
    (h : x.length = y.length)
    (hv : vinv.length = x.length ∧ ∀ r ∈ vinv, r.length = x.length) :
    Src.mahalanobis T x y vinv = Metrics.mahalanobis T vinv x y := by
  simp only [Src.mahalanobis, foldl_set_replicate, Metrics.mahalanobis, Metrics.diffs,
    zip_eq_map_range x y 0 0 rfl h.symm, List.map_map, zip_map_range vinv _ [] hv.1, sumL,
    List.foldl_map, Function.comp_def]
  -- row `i < n` of `vinv` has the length of the difference vector
  refine congrArg T.sqrt (foldl_range_congr rfl fun st i hi => ?_)
  have hr : (vinv.getD i []).length = x.length := hv.2 _ (getD_mem (hv.1 ▸ hi))
  rw [zip_map_range _ _ 0 hr, List.foldl_map, getD_map_range _ _ hi]
  exact congrArg (st + · * _) (foldl_range_congr rfl fun s j hj => by rw [getD_map_range _ _ hj])

theorem cosine_src (T : Transc α) (x y : List α) (h : x.length = y.length) :
    Src.cosine T x y = Metrics.cosine T x y := by
  simp only [Src.cosine, Src.sq, foldl_add_triple, Metrics.cosine, Metrics.dot, zip_eq_map_range x y 0 0 rfl h.symm,
    zip_eq_map_range x x 0 0 rfl rfl, zip_eq_map_range y y 0 0 h.symm h.symm, sumL,
    List.foldl_map]

theorem correlation_src (T : Transc α) (x y : List α) (h : x.length = y.length) :
    Src.correlation T x y = Metrics.correlation T x y := by
  simp only [Src.correlation, Src.sq, foldl_add_pair, foldl_add_triple, Metrics.correlation, Metrics.mean, Metrics.dot,
    List.zip_map', foldl_eq_foldl_range x 0 rfl, foldl_eq_foldl_range y 0 h.symm,
    map_eq_map_range x 0 rfl, map_eq_map_range y 0 h.symm, sumL, List.foldl_map]

theorem hamming_src_generic (hc0 : ((0 : Nat) : α) = 0) (hcs : ∀ n : Nat, ((n + 1 : Nat) : α) = (n : α) + 1)
    (x y : List α) (h : x.length = y.length) :
    Src.hamming x y = Metrics.hamming x y := by
  simp only [Src.hamming, Metrics.hamming, Metrics.rat, zip_eq_map_range x y 0 0 rfl h.symm,
    List.countP_map, Function.comp_def]
  rw [← hc0, foldl_counter hcs, Nat.zero_add]

theorem canberra_src_generic (h0 : ∀ a : α, a + 0 = a) (x y : List α) (h : x.length = y.length) :
    Src.canberra x y = Metrics.canberra x y := by
  simp only [Src.canberra, Metrics.canberra, zip_eq_map_range x y 0 0 rfl h.symm, sumL,
    List.foldl_map]
  refine foldl_range_congr rfl fun st i _ => ?_
  split_ifs
  exacts [rfl, (h0 st).symm]

theorem hellinger_src_generic (hmax : ∀ v : α, maxV v 0 = maxV 0 v) (T : Transc α) (x y : List α)
    (h : x.length = y.length) :
    Src.hellinger T x y = Metrics.hellinger T x y := by
  simp only [Src.hellinger, foldl_add_triple, hmax, Metrics.hellinger, zip_eq_map_range x y 0 0 rfl h.symm,
    foldl_eq_foldl_range x 0 rfl, foldl_eq_foldl_range y 0 h.symm, sumL, List.foldl_map]

end generic

section field
variable {K : Type} [Field K] [LinearOrder K] [IsStrictOrderedRing K]

theorem hamming_src (x y : List K) (h : x.length = y.length) :
    Src.hamming x y = Metrics.hamming x y :=
  hamming_src_generic Nat.cast_zero (fun n => Nat.cast_succ n) x y h

theorem canberra_src (x y : List K) (h : x.length = y.length) :
    Src.canberra x y = Metrics.canberra x y :=
  canberra_src_generic add_zero x y h

theorem hellinger_src (T : Transc K) (x y : List K) (h : x.length = y.length) :
    Src.hellinger T x y = Metrics.hellinger T x y :=
  hellinger_src_generic (fun v => maxV_comm v 0) T x y h

end field

end C12SrcA
end Umap
