/-
  UmapProps.C12SrcC — the machine-generated translations (`Generated/DistSrc.lean`, namespace `Umap.Src`) of
  `haversine`, `approx_log_Gamma`, `log_beta`, `log_single_beta`, `ll_dirichlet` and `symmetric_kl`
  are EQUAL to the hand-written model (`UmapModel/Metrics.lean`).

  Every theorem is stated for the fully generic scalar type `α` (no algebraic law is used: the proofs are pure
  fold / list manipulation), so they also cover the `Float` instance that the driver executes.  The only extra
  hypotheses are the equal-length shape facts.
-/
import UmapModel.Metrics
import Generated.DistSrc
import UmapProofs.SrcLemmas

set_option linter.unusedSectionVars false -- the `_src` statements

namespace Umap
namespace C12SrcC
open SrcLemmas

section generic
variable {α : Type} [Add α] [Sub α] [Mul α] [Div α] [Neg α] [LT α] [LE α]
  [DecidableLT α] [DecidableLE α] [OfNat α 0] [OfNat α 1] [NatCast α]

/-- `haversine`: the source only checks `x.shape[0] != 2` and then reads `y[0]`, `y[1]`; the model requires
    both vectors to have two entries.  They agree when the two vectors have the same length. -/
theorem haversine_src (T : Transc α) (x y : List α) (h : x.length = y.length) :
    Src.haversine T x y = Metrics.haversine T x y := by
  -- `x` has 0, 1, 2 or more entries; both sides compute on each shape, for 2 once `y` is a pair too
  rcases x with _ | ⟨x0, _ | ⟨x1, _ | ⟨x2, xs⟩⟩⟩
  · rfl
  · rfl
  · obtain ⟨y0, y1, rfl⟩ := List.length_eq_two.mp h.symm
    rfl
  · rfl

theorem approxLogGamma_src (T : Transc α) (pi x : α) :
    Src.approxLogGamma T pi x = Metrics.approxLogGamma T pi x := by
  unfold Src.approxLogGamma Metrics.approxLogGamma Metrics.two
  rfl

theorem logBeta_src (T : Transc α) (pi x y : α) :
    Src.logBeta T pi x y = Metrics.logBeta T pi x y := by
  unfold Src.logBeta Metrics.logBeta
  simp only [approxLogGamma_src, Src.rangeFrom, List.foldl_map, Nat.add_comm 1]

theorem logSingleBeta_src (T : Transc α) (pi x : α) :
    Src.logSingleBeta T pi x = Metrics.logSingleBeta T pi x := by
  unfold Src.logSingleBeta Metrics.logSingleBeta Metrics.two
  rfl

theorem llDirichlet_src (T : Transc α) (pi : α) (d1 d2 : List α) (h : d1.length = d2.length) :
    Src.llDirichlet T pi d1 d2 = Metrics.llDirichlet T pi ((100000000 : Nat) : α) d1 d2 := by
  simp only [Src.llDirichlet, Metrics.llDirichlet, logBeta_src, logSingleBeta_src,
    zip_eq_map_range d1 d2 0 0 rfl h.symm, List.foldl_map, Prod.eta]

theorem symmetricKl_src (T : Transc α) (x y : List α) (z : α) (h : x.length = y.length) :
    Src.symmetricKl T x y z = Metrics.symmetricKl T z x y := by
  simp only [Src.symmetricKl, foldl_add_pair, Metrics.symmetricKl, Metrics.two,
    zip_eq_map_range x y 0 0 rfl h.symm, foldl_eq_foldl_range x 0 rfl, foldl_eq_foldl_range y 0 h.symm,
    sumL, List.foldl_map, List.map_map, Function.comp_def]

end generic

end C12SrcC
end Umap
