/-
  C17 (radii) — the reported local radius is the defined quantity, for every symmetric graph.

  `radius_double_count` (C17.lean) needs "column sums equal row sums"; here that hypothesis is
  discharged for the COO listing of a symmetric matrix (swapping head and tail of every entry
  reorders the list), and the argument of the logarithm is shown positive and bracketed by the
  extreme squared neighbour distances.
-/
import UmapProps.C17

set_option linter.unusedSectionVars false -- variables of the fixed statements

namespace Umap
namespace C17
open Radii

section
variable {K : Type} [Field K] [LinearOrder K] [IsStrictOrderedRing K]

/-- swap head and tail of an entry. -/
def swapE (e : Edge K) : Edge K := (e.2.1, e.1, e.2.2.1, e.2.2.2)

/-- the COO listing of a symmetric weighted graph: the swapped list is a reordering of the list. -/
def SymmetricEdges (es : List (Edge K)) : Prop := (es.map swapE).Perm es

theorem colNum_eq_rowNum_swap (es : List (Edge K)) (i : Nat) :
    colNum es i = rowNum (es.map swapE) i := by
  unfold colNum rowNum swapE
  rw [List.map_map]
  rfl

theorem colDen_eq_rowDen_swap (es : List (Edge K)) (i : Nat) :
    colDen es i = rowDen (es.map swapE) i := by
  unfold colDen rowDen swapE
  rw [List.map_map]
  rfl

/-- the radius does not depend on the order in which the graph's entries are listed
    (COO order, CSR order, after `sum_duplicates`, ...). -/
theorem radius_perm (T : Transc K) (eps : K) {es es' : List (Edge K)} (h : es.Perm es') (i : Nat) :
    radius T eps es i = radius T eps es' i := by
  unfold radius accNum accDen
  rw [sumL_map_perm _ h, sumL_map_perm _ h]

/--
  For every symmetric edge list the reported radius of sample `i` is
  `log(ε + Σ_k μ_ik d_ik² / Σ_k μ_ik)` — the logarithm of the membership-weighted mean squared
  distance to the sample's graph neighbours; no side condition on column sums is left.
-/
theorem radius_symmetric (T : Transc K) (eps : K) (es : List (Edge K)) (hs : SymmetricEdges es)
    (i : Nat) : radius T eps es i = T.log (eps + rowNum es i / rowDen es i) := by
  apply radius_double_count
  · rw [colNum_eq_rowNum_swap]; exact sumL_map_perm _ hs
  · rw [colDen_eq_rowDen_swap]; exact sumL_map_perm _ hs

theorem rowDen_nonneg (es : List (Edge K)) (hmu : ∀ e ∈ es, 0 ≤ e.2.2.1) (i : Nat) :
    0 ≤ rowDen es i :=
  sumL_map_nonneg _ _ fun e he => by
    split_ifs
    · exact hmu e he
    · exact le_refl _

theorem rowNum_nonneg (es : List (Edge K)) (hmu : ∀ e ∈ es, 0 ≤ e.2.2.1) (i : Nat) :
    0 ≤ rowNum es i :=
  sumL_map_nonneg _ _ fun e he => by
    split_ifs
    · exact mul_nonneg (hmu e he) (mul_self_nonneg _)
    · exact le_refl _

/-- weighted sums are bracketed: if every squared distance of row `i` lies in `[lo, hi]` then
    `lo * Σ μ ≤ Σ μ d² ≤ hi * Σ μ` (term by term). -/
theorem rowNum_bounds (es : List (Edge K)) (hmu : ∀ e ∈ es, 0 ≤ e.2.2.1) (i : Nat) (lo hi : K)
    (hb : ∀ e ∈ es, e.1 = i → lo ≤ e.2.2.2 * e.2.2.2 ∧ e.2.2.2 * e.2.2.2 ≤ hi) :
    lo * rowDen es i ≤ rowNum es i ∧ rowNum es i ≤ hi * rowDen es i := by
  unfold rowNum rowDen
  rw [← sumL_map_mul_left, ← sumL_map_mul_left]
  constructor <;> refine sumL_map_le _ _ _ fun e he => ?_
  · split_ifs with h
    · rw [mul_comm]; exact mul_le_mul_of_nonneg_left (hb e he h).1 (hmu e he)
    · rw [mul_zero]
  · split_ifs with h
    · rw [mul_comm hi]; exact mul_le_mul_of_nonneg_left (hb e he h).2 (hmu e he)
    · rw [mul_zero]

/--
  For a non-isolated sample of a graph with non-negative
  strengths (`Σ_k μ_ik > 0`) the membership-weighted mean squared distance lies between the
  smallest and the largest squared distance to its neighbours; in particular with `ε > 0` the
  argument of the logarithm is positive, so the radius is a finite real number.
-/
theorem radius_argument_bracketed (es : List (Edge K)) (hmu : ∀ e ∈ es, 0 ≤ e.2.2.1) (i : Nat)
    (hpos : 0 < rowDen es i) (lo hi : K)
    (hb : ∀ e ∈ es, e.1 = i → lo ≤ e.2.2.2 * e.2.2.2 ∧ e.2.2.2 * e.2.2.2 ≤ hi) :
    lo ≤ rowNum es i / rowDen es i ∧ rowNum es i / rowDen es i ≤ hi := by
  obtain ⟨h1, h2⟩ := rowNum_bounds es hmu i lo hi hb
  constructor
  · rw [le_div_iff₀ hpos]; exact h1
  · rw [div_le_iff₀ hpos]; exact h2

/-- with `ε > 0` and non-negative strengths the argument of the logarithm is positive (also for
    an isolated sample, where the model's `x / 0 = 0` stands for the code's `0 / 0 = NaN`: the
    property excludes isolated samples, and so does `radius_argument_bracketed`). -/
theorem radius_argument_pos (es : List (Edge K)) (hmu : ∀ e ∈ es, 0 ≤ e.2.2.1) (i : Nat)
    (eps : K) (heps : 0 < eps) :
    0 < eps + rowNum es i / rowDen es i :=
  add_pos_of_pos_of_nonneg heps (div_nonneg (rowNum_nonneg es hmu i) (rowDen_nonneg es hmu i))

end

-- `SymmetricEdges` is satisfiable, by a listing whose sample `0` is not isolated (`rowDen > 0`)

example : SymmetricEdges ([(0, 1, 1/2, 3), (1, 0, 1/2, 3)] : List (Edge ℚ)) := by
  unfold SymmetricEdges swapE
  exact List.Perm.swap _ _ _

example : rowDen ([(0, 1, 1/2, 3), (1, 0, 1/2, 3)] : List (Edge ℚ)) 0 = 1/2
    ∧ rowNum ([(0, 1, 1/2, 3), (1, 0, 1/2, 3)] : List (Edge ℚ)) 0 = 9/2 := by
  decide +kernel

end C17
end Umap
