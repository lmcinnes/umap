/-
  C07Schedule — the scheduling stage in front of the layout optimiser and the `-1` sentinel.

  Python (umap/umap_.py, `simplicial_set_embedding` and `UMAP.transform`):

      graph.data[graph.data < (graph.data.max() / float(n_epochs))] = 0.0
      graph.eliminate_zeros()
      epochs_per_sample = make_epochs_per_sample(graph.data, n_epochs)

  Model: `Umap.Schedule` (`wmax`, `prune`, `eliminate`, `schedule`, `scheduleNoElim`),
  `Umap.Sgd.makeEpochsPerSample`, `Umap.Sgd.edgeClock` / `runClock`.
  The clock theorems `runClock_inv`, `pruned_never_due`, `nonpos_period_always_due`, `eps_eq` (C07)
  and `run_clock`, `runClocks_eons` (C07Clocks) are used, not re-proved.

  Standing hypotheses: `1 ≤ n`, `0 < wmax ws`.  (Non-negativity of the weights turns out not to be
  needed: an entry below the positive threshold is zeroed whatever its sign.)
-/
import UmapModel.Sgd
import UmapModel.Schedule
import UmapProps.C07Clocks

namespace Umap
namespace C07
open Sgd Schedule

section Max
variable {K : Type} [Field K] [LinearOrder K]

theorem wmax_nil : wmax ([] : List K) = 0 := rfl

theorem le_wmax (ws : List K) (w : K) (hw : w ∈ ws) : w ≤ wmax ws := le_maxL _ _ _ hw

theorem wmax_mem (ws : List K) (h : ws ≠ []) : wmax ws ∈ ws := by
  cases ws with
  | nil => exact absurd rfl h
  | cons a l =>
    rcases maxL_mem a (a :: l) with h' | h'
    · rw [show wmax (a :: l) = a from h']; exact List.mem_cons_self
    · exact h'

theorem wmax_unique (l : List K) (m : K) (hm : m ∈ l) (hle : ∀ w ∈ l, w ≤ m) : wmax l = m :=
  le_antisymm (hle _ (wmax_mem l (List.ne_nil_of_mem hm))) (le_wmax l m hm)

theorem ne_nil_of_wmax_pos (ws : List K) (h : 0 < wmax ws) : ws ≠ [] := by
  rintro rfl
  rw [wmax_nil] at h
  exact lt_irrefl _ h

end Max

section Sched
variable {K : Type} [Field K] [LinearOrder K] [IsStrictOrderedRing K]

theorem thr_pos (n : Nat) (ws : List K) (hn : 1 ≤ n) (hpos : 0 < wmax ws) :
    0 < wmax ws / (n : K) :=
  div_pos hpos (Nat.cast_pos.2 hn)

theorem thr_le (n : Nat) (ws : List K) (hn : 1 ≤ n) (hpos : 0 < wmax ws) :
    wmax ws / (n : K) ≤ wmax ws :=
  div_le_self hpos.le (Nat.one_le_cast.2 hn)

/-! ### 1. prune + eliminate = keep the entries `≥ wmax / n`; the maximum survives -/

theorem eliminate_map_thr (thr : K) (ht : 0 < thr) (ws : List K) :
    eliminate (ws.map fun w => if w < thr then 0 else w)
      = ws.filter (fun w => decide (thr ≤ w)) := by
  unfold eliminate
  rw [← List.filterMap_eq_filter, ← List.filterMap_eq_filter, List.filterMap_map]
  refine List.filterMap_congr fun w _ => ?_
  -- an entry below the threshold becomes `0` and is dropped; one above it is positive and kept
  by_cases hw : w < thr
  · simp [Option.guard, hw, (eqV_iff (0 : K) 0).2 rfl]
  · have hne : eqV w 0 = false := (eqV_eq_false_iff w 0).2 (ht.trans_le (not_lt.1 hw)).ne'
    simp [Option.guard, hw, hne]

/-- the stored weights after pruning and elimination: exactly those `≥ wmax / n`, in order. -/
theorem elim_prune_eq (n : Nat) (ws : List K) (hn : 1 ≤ n) (hpos : 0 < wmax ws) :
    eliminate (prune n ws) = ws.filter (fun w => decide (wmax ws / (n : K) ≤ w)) :=
  eliminate_map_thr _ (thr_pos n ws hn hpos) ws

theorem mem_elim_prune (n : Nat) (ws : List K) (hn : 1 ≤ n) (hpos : 0 < wmax ws) (w : K) :
    w ∈ eliminate (prune n ws) ↔ w ∈ ws ∧ wmax ws / (n : K) ≤ w := by
  rw [elim_prune_eq n ws hn hpos]; simp

/-- **1.** the maximum survives pruning, and every surviving weight lies in
    `[wmax / n, wmax]`. -/
theorem prune_keeps_max (n : Nat) (ws : List K) (hn : 1 ≤ n) (hpos : 0 < wmax ws) :
    wmax (eliminate (prune n ws)) = wmax ws
      ∧ ∀ w ∈ eliminate (prune n ws), wmax ws / (n : K) ≤ w ∧ w ≤ wmax ws := by
  have hb : ∀ w ∈ eliminate (prune n ws), wmax ws / (n : K) ≤ w ∧ w ≤ wmax ws := by
    intro w hw
    obtain ⟨h1, h2⟩ := (mem_elim_prune n ws hn hpos w).1 hw
    exact ⟨h2, le_wmax ws w h1⟩
  refine ⟨wmax_unique _ _ ?_ (fun w hw => (hb w hw).2), hb⟩
  exact (mem_elim_prune n ws hn hpos _).2
    ⟨wmax_mem ws (ne_nil_of_wmax_pos ws hpos), thr_le n ws hn hpos⟩

theorem surviving_pos (n : Nat) (ws : List K) (hn : 1 ≤ n) (hpos : 0 < wmax ws) (w : K)
    (hw : w ∈ eliminate (prune n ws)) : 0 < w :=
  lt_of_lt_of_le (thr_pos n ws hn hpos) ((prune_keeps_max n ws hn hpos).2 w hw).1

/-! ### 2. the periods -/

theorem makeEpochsPerSample_eq_map (l : List K) (n : Nat) :
    makeEpochsPerSample l n
      = l.map (fun w => let ns := (n : K) * (w / wmax l); if 0 < ns then (n : K) / ns else -1) :=
  rfl

/-- **2a.** each period is `wmax / w` for the corresponding surviving weight. -/
theorem schedule_eq (n : Nat) (ws : List K) (hn : 1 ≤ n) (hpos : 0 < wmax ws) :
    schedule n ws = (eliminate (prune n ws)).map (fun w => wmax ws / w) := by
  unfold schedule
  rw [makeEpochsPerSample_eq_map, (prune_keeps_max n ws hn hpos).1]
  apply List.map_congr_left
  intro w hw
  exact eps_eq w (wmax ws) n hn (surviving_pos n ws hn hpos w hw) hpos

theorem schedule_length (n : Nat) (ws : List K) :
    (schedule n ws).length = (eliminate (prune n ws)).length := by
  unfold schedule; rw [makeEpochsPerSample_eq_map, List.length_map]

theorem schedule_get (n : Nat) (ws : List K) (hn : 1 ≤ n) (hpos : 0 < wmax ws) (i : Nat)
    (hi : i < (eliminate (prune n ws)).length) :
    (schedule n ws)[i]'(by rw [schedule_length]; exact hi)
      = wmax ws / (eliminate (prune n ws))[i] := by
  simp only [schedule_eq n ws hn hpos, List.getElem_map]

/-- **2b.** every period lies in `[1, n]`. -/
theorem schedule_range (n : Nat) (ws : List K) (hn : 1 ≤ n) (hpos : 0 < wmax ws) :
    ∀ p ∈ schedule n ws, 1 ≤ p ∧ p ≤ (n : K) := by
  intro p hp
  rw [schedule_eq n ws hn hpos, List.mem_map] at hp
  obtain ⟨w, hw, rfl⟩ := hp
  have hw0 := surviving_pos n ws hn hpos w hw
  obtain ⟨h1, h2⟩ := (prune_keeps_max n ws hn hpos).2 w hw
  exact ⟨(one_le_div hw0).2 h2, (div_le_comm₀ hw0 (Nat.cast_pos.2 hn)).2 h1⟩

/-! ### 3. how often a scheduled edge is used

  The clock starts at `eps` (not at `0`) and epochs are numbered `0 .. n-1`, so by `runClock_inv`
  the number of uses `c` satisfies `c·eps ≤ n-1 < (c+1)·eps`, i.e. `c = ⌊(n-1)/eps⌋` — *not*
  `⌊(n-1)/eps⌋ + 1`; in particular an edge is used at least once iff `eps ≤ n-1`, and a kept edge
  with period in `(n-1, n]` (weight in `[wmax/n, wmax/(n-1))`) is never used (cf.
  `pruned_never_due`; example below).
-/

/-- **3.** an edge with period `eps ∈ [1, n]` in an `n`-epoch run: `c·eps ≤ n-1 < (c+1)·eps`
    for its number of uses `c`; it is used at least once iff `eps ≤ n-1`; never more than
    `n-1` times. -/
theorem schedule_used (eps : K) (n : Nat) (hn : 1 ≤ n) (h1 : 1 ≤ eps) :
    let c := (runClock eps n).2
    ((c : K) * eps ≤ (n : K) - 1 ∧ (n : K) - 1 < ((c : K) + 1) * eps)
      ∧ (1 ≤ c ↔ eps ≤ (n : K) - 1) ∧ c ≤ n - 1 := by
  obtain ⟨e, lo, hi⟩ := runClock_inv eps h1 n
  intro c
  -- `c ≤ c·eps`, so the first bound also bounds `c` itself
  have hc : c ≤ n - 1 := Nat.cast_le.1 ((le_mul_of_one_le_right (Nat.cast_nonneg c) h1).trans lo)
  rw [Nat.cast_pred hn] at lo
  rw [e] at hi
  refine ⟨⟨lo, hi⟩, ⟨fun h => not_lt.1 fun hlt => ?_, fun h => ?_⟩, hc⟩
  · -- a period beyond `n-1` is never due
    rw [show c = 0 from congrArg Prod.snd (pruned_never_due eps n hlt)] at h
    exact Nat.not_succ_le_zero 0 h
  · -- `eps ≤ n-1 < (c+1)·eps` is impossible for `c = 0`
    refine Nat.pos_of_ne_zero fun (h0 : (runClock eps n).2 = 0) => (h.trans_lt hi).ne ?_
    rw [h0, Nat.cast_zero, zero_add, one_mul]

theorem schedule_used_floor [FloorRing K] (eps : K) (n : Nat) (hn : 1 ≤ n) (h1 : 1 ≤ eps) :
    (runClock eps n).2 = ⌊((n : K) - 1) / eps⌋₊ := by
  obtain ⟨⟨lo, hi⟩, -, -⟩ := schedule_used eps n hn h1
  exact (floor_div_eq (one_pos.trans_le h1) lo hi).symm

/-- every edge that `schedule` emits has this clock behaviour (its period is in `[1, n]`). -/
theorem schedule_used_all (n : Nat) (ws : List K) (hn : 1 ≤ n) (hpos : 0 < wmax ws) :
    ∀ p ∈ schedule n ws,
      let c := (runClock p n).2
      (1 ≤ p ∧ p ≤ (n : K))
        ∧ ((c : K) * p ≤ (n : K) - 1 ∧ (n : K) - 1 < ((c : K) + 1) * p)
        ∧ (1 ≤ c ↔ p ≤ (n : K) - 1) ∧ c ≤ n - 1 := by
  intro p hp
  have hr := schedule_range n ws hn hpos p hp
  exact ⟨hr, schedule_used p n hn hr.1⟩

/-! ### 4. pruned edges are absent -/

/-- the schedule in closed form: one period `wmax / w` per weight `w ≥ wmax / n`, in order. -/
theorem schedule_filter (n : Nat) (ws : List K) (hn : 1 ≤ n) (hpos : 0 < wmax ws) :
    schedule n ws
      = (ws.filter (fun w => decide (wmax ws / (n : K) ≤ w))).map (fun w => wmax ws / w) := by
  rw [schedule_eq n ws hn hpos, elim_prune_eq n ws hn hpos]

/-- **4.** only the weights `≥ wmax / n` contribute a period. -/
theorem pruned_edges_absent (n : Nat) (ws : List K) (hn : 1 ≤ n) (hpos : 0 < wmax ws) :
    (schedule n ws).length = (ws.filter (fun w => decide (wmax ws / (n : K) ≤ w))).length := by
  rw [schedule_filter n ws hn hpos, List.length_map]

/-- **4'.** a weight `w < wmax / n` contributes nothing at all: deleting it from the weight list
    leaves the schedule unchanged. -/
theorem pruned_edge_removable (n : Nat) (l₁ l₂ : List K) (w : K) (hn : 1 ≤ n)
    (hpos : 0 < wmax (l₁ ++ w :: l₂)) (hw : w < wmax (l₁ ++ w :: l₂) / (n : K)) :
    schedule n (l₁ ++ w :: l₂) = schedule n (l₁ ++ l₂) := by
  set M := wmax (l₁ ++ w :: l₂) with hM
  have hne : M ≠ w := ne_of_gt (lt_of_lt_of_le hw (thr_le n _ hn hpos))
  have hmem : M ∈ l₁ ++ w :: l₂ := wmax_mem _ (ne_nil_of_wmax_pos _ hpos)
  -- the maximum is not `w`, so it is still there, and still the maximum, without `w`
  have hM' : wmax (l₁ ++ l₂) = M :=
    wmax_unique _ _ ((List.mem_cons.1 (List.perm_middle.mem_iff.1 hmem)).resolve_left hne)
      fun v hv => le_wmax _ v (List.perm_middle.mem_iff.2 (List.mem_cons_of_mem _ hv))
  rw [schedule_filter n _ hn hpos, schedule_filter n _ hn (by rw [hM']; exact hpos), hM', ← hM,
    List.filter_append, List.filter_append,
    List.filter_cons_of_neg (by rw [decide_eq_true_eq]; exact not_le.2 hw)]

/-! ### 5. without the elimination: the `-1` sentinel -/

theorem mem_prune (n : Nat) (ws : List K) (v : K) (hv : v ∈ prune n ws) :
    v = 0 ∨ (v ∈ ws ∧ wmax ws / (n : K) ≤ v) := by
  unfold prune at hv
  simp only [List.mem_map] at hv
  obtain ⟨w, hw, rfl⟩ := hv
  split_ifs with h
  · exact Or.inl rfl
  · exact Or.inr ⟨hw, not_lt.1 h⟩

theorem wmax_prune (n : Nat) (ws : List K) (hn : 1 ≤ n) (hpos : 0 < wmax ws) :
    wmax (prune n ws) = wmax ws := by
  apply wmax_unique
  · unfold prune
    simp only [List.mem_map]
    refine ⟨wmax ws, wmax_mem ws (ne_nil_of_wmax_pos ws hpos), ?_⟩
    rw [if_neg (not_lt.2 (thr_le n ws hn hpos))]
  · intro v hv
    rcases mem_prune n ws v hv with rfl | ⟨h, -⟩
    · exact hpos.le
    · exact le_wmax ws v h

/-- `scheduleNoElim` in closed form: `-1` at every pruned position, `wmax / w` elsewhere. -/
theorem scheduleNoElim_eq (n : Nat) (ws : List K) (hn : 1 ≤ n) (hpos : 0 < wmax ws) :
    scheduleNoElim n ws
      = ws.map (fun w => if w < wmax ws / (n : K) then -1 else wmax ws / w) := by
  unfold scheduleNoElim
  rw [makeEpochsPerSample_eq_map, wmax_prune n ws hn hpos]
  unfold prune
  rw [List.map_map]
  refine List.map_congr_left fun w _ => ?_
  dsimp only [Function.comp]
  by_cases h : w < wmax ws / (n : K)
  · simp only [if_pos h, zero_div, mul_zero, lt_irrefl, if_false]
  · simp only [if_neg h]
    exact eps_eq w (wmax ws) n hn ((thr_pos n ws hn hpos).trans_le (not_lt.1 h)) hpos

theorem scheduleNoElim_length (n : Nat) (ws : List K) :
    (scheduleNoElim n ws).length = ws.length := by
  unfold scheduleNoElim prune
  rw [makeEpochsPerSample_eq_map, List.length_map, List.length_map]

/-- **5.** if the elimination is skipped, a pruned weight yields the period `-1`
    (and a kept one its proper period). -/
theorem scheduleNoElim_get (n : Nat) (ws : List K) (hn : 1 ≤ n) (hpos : 0 < wmax ws) (i : Nat)
    (hi : i < ws.length) (hi' : i < (scheduleNoElim n ws).length) :
    (scheduleNoElim n ws)[i] = if ws[i] < wmax ws / (n : K) then -1 else wmax ws / ws[i] := by
  simp only [scheduleNoElim_eq n ws hn hpos, List.getElem_map]

/-! ### 6. the sentinel is always due -/

theorem sentinel_nonpos : (-1 : K) ≤ 0 := neg_nonpos_of_nonneg zero_le_one

/-- **6.** `runClock (-1) N` uses the edge in every one of the `N` epochs. -/
theorem sentinel_always_due (N : Nat) :
    runClock (-1 : K) N = (-((N : K) + 1), N) := by
  rw [nonpos_period_always_due (-1 : K) sentinel_nonpos N, mul_neg, mul_one]

theorem sentinel_visits (N : Nat) : (runClock (-1 : K) N).2 = N := by
  rw [sentinel_always_due]

/-- the sentinel's clock is `≤` the epoch number at every epoch (the test of `edgeStep`). -/
theorem sentinel_due_each_epoch (N : Nat) : (runClock (-1 : K) N).1 ≤ (N : K) := by
  rw [nonpos_period_always_due _ sentinel_nonpos N]
  exact nonpos_period_le _ sentinel_nonpos N

/-- so skipping the elimination makes exactly the edges that must never be used the most used:
    any legitimate period (`≥ 1`) is used strictly less often than the sentinel. -/
theorem sentinel_most_used (eps : K) (h1 : 1 ≤ eps) (N : Nat) (hN : 1 ≤ N) :
    (runClock eps N).2 < (runClock (-1 : K) N).2 := by
  rw [sentinel_visits]
  have : (runClock eps N).2 ≤ N - 1 := (schedule_used eps N hN h1).2.2
  omega

/-- put together: in `scheduleNoElim`, the position of a weight below `wmax / n` carries a period
    whose clock fires in all `N` epochs, for every `N`. -/
theorem noelim_pruned_always_due (n : Nat) (ws : List K) (hn : 1 ≤ n) (hpos : 0 < wmax ws)
    (i : Nat) (hi : i < ws.length) (hlt : ws[i] < wmax ws / (n : K)) (N : Nat) :
    (runClock ((scheduleNoElim n ws)[i]'(by rw [scheduleNoElim_length]; exact hi)) N).2 = N := by
  rw [scheduleNoElim_get n ws hn hpos i hi, if_pos hlt, sentinel_visits]

/-! ### the same two facts as statements about the optimiser's own state (`run_clock`) -/

/-- an edge whose stored period is the sentinel `-1` is processed in every epoch of
    `runEpochs`: its `epoch_of_next_sample` entry ends at `-(N+1)`. -/
theorem sentinel_run [Inhabited K] (T : Transc K) (rnd : K → K) (P : Params K) (hd tl : Array Nat)
    (eps epns : Array K) (alpha0 : K) (N : Nat) (s : State K)
    (i : Nat) (hi : i < eps.size) (h1 : i < s.eons.size) (h2 : i < s.eonns.size)
    (he : s.eons[i]! = eps[i]!) (hn : s.eonns[i]! = epns[i]!) (hs : eps[i]! = -1) :
    (runEpochs T rnd P hd tl eps epns alpha0 N s).eons[i]! = -((N : K) + 1) := by
  rw [(run_clock T rnd P hd tl eps epns alpha0 N s i hi h1 h2 he hn).1, runClocks_eons, hs,
    sentinel_always_due]

/-- an edge with a legitimate period `eps[i] ≥ 1` is processed `c` times in the `N ≥ 1` epochs of
    `runEpochs`, where `c·eps ≤ N-1 < (c+1)·eps` (so `c ≤ N-1`): its `epoch_of_next_sample`
    entry ends at `(c+1)·eps`. -/
theorem scheduled_run [Inhabited K] (T : Transc K) (rnd : K → K) (P : Params K) (hd tl : Array Nat)
    (eps epns : Array K) (alpha0 : K) (N : Nat) (hN : 1 ≤ N) (s : State K)
    (i : Nat) (hi : i < eps.size) (h1 : i < s.eons.size) (h2 : i < s.eonns.size)
    (he : s.eons[i]! = eps[i]!) (hn : s.eonns[i]! = epns[i]!) (hp : 1 ≤ eps[i]!) :
    ∃ c : Nat, (runEpochs T rnd P hd tl eps epns alpha0 N s).eons[i]! = ((c : K) + 1) * eps[i]!
      ∧ (c : K) * eps[i]! ≤ (N : K) - 1 ∧ (N : K) - 1 < ((c : K) + 1) * eps[i]! ∧ c ≤ N - 1 := by
  obtain ⟨r1, -⟩ := run_clock T rnd P hd tl eps epns alpha0 N s i hi h1 h2 he hn
  obtain ⟨⟨a1, a2⟩, -, a3⟩ := schedule_used eps[i]! N hN hp
  refine ⟨(runClock eps[i]! N).2, ?_, a1, a2, a3⟩
  rw [r1, runClocks_eons, (runClock_inv eps[i]! hp N).1]

/-- both facts for the arrays the pipeline would actually pass on if the elimination were
    skipped: with `eps = scheduleNoElim n ws`, the edge of a weight below `wmax / n` is processed
    in every epoch of `runEpochs`. -/
theorem noelim_run [Inhabited K] (T : Transc K) (rnd : K → K) (P : Params K) (hd tl : Array Nat)
    (n : Nat) (ws : List K) (hn : 1 ≤ n) (hpos : 0 < wmax ws)
    (epns : Array K) (alpha0 : K) (N : Nat) (s : State K)
    (i : Nat) (hi : i < ws.length) (h1 : i < s.eons.size) (h2 : i < s.eonns.size)
    (he : s.eons[i]! = (scheduleNoElim n ws).toArray[i]!) (hn' : s.eonns[i]! = epns[i]!)
    (hlt : ws[i] < wmax ws / (n : K)) :
    (runEpochs T rnd P hd tl (scheduleNoElim n ws).toArray epns alpha0 N s).eons[i]!
      = -((N : K) + 1) := by
  have hlen : i < (scheduleNoElim n ws).length := by rw [scheduleNoElim_length]; exact hi
  apply sentinel_run T rnd P hd tl _ epns alpha0 N s i (by simpa using hlen) h1 h2 he hn'
  have : (scheduleNoElim n ws).toArray[i]! = (scheduleNoElim n ws)[i] := by
    simp [hlen]
  rw [this, scheduleNoElim_get n ws hn hpos i hi, if_pos hlt]

end Sched

/-! ### the literal reading of item 3 ("used at least once", "⌊(n-1)/eps⌋ + 1 times") is false -/

/-- "an edge with period `eps ∈ [1, n]` is used at least once in an `n`-epoch run". -/
def ScheduleUsedAtLeastOnce (K : Type) [Field K] [LinearOrder K] [IsStrictOrderedRing K] : Prop :=
  ∀ (eps : K) (n : Nat), 1 ≤ n → 1 ≤ eps → eps ≤ (n : K) → 1 ≤ (runClock eps n).2

/-- it fails: the clock starts at `eps` and the last epoch is `n-1`, so a period in `(n-1, n]`
    (a kept weight in `[wmax/n, wmax/(n-1))`) is never due.  The true count is
    `schedule_used` / `schedule_used_floor`: `⌊(n-1)/eps⌋`. -/
theorem not_scheduleUsedAtLeastOnce : ¬ ScheduleUsedAtLeastOnce ℚ := fun h =>
  absurd (h 10 10 (by decide) (by decide +kernel) (by decide +kernel)) (by decide +kernel)

section Examples

/-- the hypotheses `1 ≤ n`, `0 < wmax ws` hold for the example weights. -/
example : (1 ≤ 10) ∧ 0 < wmax ([1, 1 / 2, 1 / 100] : List ℚ) := by decide +kernel

example : wmax ([1, 1 / 2, 1 / 100] : List ℚ) = 1 := by decide +kernel
example : prune 10 ([1, 1 / 2, 1 / 100] : List ℚ) = [1, 1 / 2, 0] := by decide +kernel
example : eliminate (prune 10 ([1, 1 / 2, 1 / 100] : List ℚ)) = [1, 1 / 2] := by decide +kernel

example : schedule 10 ([1, 1 / 2, 1 / 100] : List ℚ) = [1, 2] := by decide +kernel
example : scheduleNoElim 10 ([1, 1 / 2, 1 / 100] : List ℚ) = [1, 2, -1] := by decide +kernel

/-- the three clocks over 10 epochs: the maximal edge 9 times, the half-weight edge 4 times, and
    the pruned edge — if it is left in with the sentinel — 10 times. -/
example : (runClock (1 : ℚ) 10).2 = 9 ∧ (runClock (2 : ℚ) 10).2 = 4
    ∧ (runClock (-1 : ℚ) 10).2 = 10 := by decide +kernel

/-- a kept edge with weight exactly `wmax / n` has period `n` and is never used
    (`schedule_used`: used at least once iff `eps ≤ n - 1`). -/
example : schedule 10 ([1, 1 / 10] : List ℚ) = [1, 10] ∧ runClock (10 : ℚ) 10 = (10, 0) := by
  decide +kernel

/-- `pruned_edge_removable` on the example. -/
example : schedule 10 ([1, 1 / 100, 1 / 2] : List ℚ) = schedule 10 ([1, 1 / 2] : List ℚ) := by
  decide +kernel

/-- hypotheses of `schedule_used` / `sentinel_most_used`. -/
example : (1 : ℚ) ≤ 2 ∧ 1 ≤ 10 := by decide +kernel

/-- `schedule_used_floor` instantiated: `⌊(10-1)/2⌋ = 4`. -/
example : (runClock (2 : ℚ) 10).2 = ⌊(((10 : Nat) : ℚ) - 1) / 2⌋₊ :=
  schedule_used_floor 2 10 (by decide) (by norm_num)

/-- `sentinel_run` / `scheduled_run` instantiated on a concrete three-edge state (any `Transc`,
    any parameters): edge 2 carries the sentinel and ends at `-(N+1)`; edge 1 has period 2. -/
example (T : Transc ℚ) (P : Params ℚ) (N : Nat) :
    (runEpochs T id P #[0, 0, 1] #[1, 2, 2] #[1, 2, -1] #[1, 2, -1] 1 N
      ⟨#[#[0], #[1], #[2]], #[], #[1, 2, -1], #[1, 2, -1], #[]⟩).eons[2]! = -((N : ℚ) + 1) :=
  sentinel_run T id P _ _ _ _ 1 N _ 2 (by decide) (by decide) (by decide) (by decide +kernel)
    (by decide +kernel) (by decide +kernel)

example (T : Transc ℚ) (P : Params ℚ) :
    ∃ c : Nat, (runEpochs T id P #[0, 0, 1] #[1, 2, 2] #[1, 2, -1] #[1, 2, -1] 1 10
      ⟨#[#[0], #[1], #[2]], #[], #[1, 2, -1], #[1, 2, -1], #[]⟩).eons[1]!
        = ((c : ℚ) + 1) * (#[1, 2, -1] : Array ℚ)[1]!
      ∧ (c : ℚ) * (#[1, 2, -1] : Array ℚ)[1]! ≤ ((10 : Nat) : ℚ) - 1
      ∧ ((10 : Nat) : ℚ) - 1 < ((c : ℚ) + 1) * (#[1, 2, -1] : Array ℚ)[1]! ∧ c ≤ 10 - 1 :=
  scheduled_run T id P _ _ _ _ 1 10 (by decide) _ 1 (by decide) (by decide) (by decide)
    (by decide +kernel) (by decide +kernel) (by decide +kernel)

/-- hypotheses of `noelim_run` / `scheduleNoElim_get` / `noelim_pruned_always_due` on the example:
    position 2 is below the threshold. -/
example : ([1, 1 / 2, 1 / 100] : List ℚ)[2] < wmax ([1, 1 / 2, 1 / 100] : List ℚ) / ((10 : Nat) : ℚ) := by
  decide +kernel

/-- hypotheses of `pruned_edge_removable` on the example. -/
example : 0 < wmax (([1] : List ℚ) ++ (1 / 100) :: [1 / 2])
    ∧ (1 / 100 : ℚ) < wmax (([1] : List ℚ) ++ (1 / 100) :: [1 / 2]) / ((10 : Nat) : ℚ) := by
  decide +kernel

end Examples

end C07
end Umap
