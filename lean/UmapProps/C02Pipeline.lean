/-
  C02 (pipeline) — the graph stage end to end: from a kNN table to the fitted graph.

  Model: `Umap.Graph.graphOfKnn` = `smooth_knn_dist` + `compute_membership_strengths`
  (`Graph.memberRows`) → COO assembly with NaN check and `eliminate_zeros` (`Graph.assemble`) →
  fuzzy union / intersection blend (`Graph.symmetrize`), instantiated at ℝ with `realT`.

  For every *valid* kNN table (what umap's kNN stage produces: per row distinct neighbour
  indices, index `-1` exactly where the distance is `inf`) and every parameter setting for which
  no rho is NaN (always the case for an integral `local_connectivity ≥ 1`, in particular the
  default 1.0 — `rho_ne_nan_integral`):
    * the directed matrix is assembled (no NaN strength), has no duplicate position, and its
      value at `(i, j)` is the single membership strength of neighbour `j` in row `i` (or 0);
    * every stored entry `(i, j, v)` of the fitted graph has `0 < v ≤ 1`, its mirror `(j, i, v)`
      is stored, `i ≠ j`, and `j` is one of the listed neighbours of `i` or `i` one of `j`'s.
-/
import UmapProofs.AssembleLemmas
import UmapProps.C01
import UmapProps.C04
import UmapProps.C20

namespace Umap
namespace C02
open Graph Knn

/--
  A well-formed kNN table `(knn_indices, knn_dists)`; `none` encodes index `-1` / distance `inf`.
  Every clause holds for the tables umap builds (nearest-neighbour descent or the precomputed
  path, followed by the disconnection step
  `knn_indices[knn_dists >= disconnection_distance] = -1; knn_dists[...] = inf`):
   * the two tables have the same number of rows and all rows have the same number `k` of columns;
   * within a row the non-skipped neighbour indices are pairwise distinct;
   * at every position the index is skipped (`-1`) iff the distance is `inf`
     (`ix.zip d` pairs the entries of row `i` position by position).
-/
structure ValidTable (idx : List (List (Option Nat))) (ds : List (List (Option ℝ))) : Prop where
  rows_eq : idx.length = ds.length
  cols_eq : ∃ k, (∀ ix ∈ idx, ix.length = k) ∧ (∀ d ∈ ds, d.length = k)
  distinct : ∀ ix ∈ idx, (ix.filterMap id).Nodup
  skip_iff : ∀ (i : Nat) (ix : List (Option Nat)) (d : List (Option ℝ)),
    idx[i]? = some ix → ds[i]? = some d →
    ∀ p ∈ ix.zip d, (p.1 = none ↔ p.2 = none)

/-- "row `i` lists `j`" is written `some j ∈ (idx[i]?).getD []` in the statements below. -/
theorem mem_getD_nil {β : Type} {o : Option (List β)} {b : β} :
    b ∈ o.getD [] ↔ ∃ l, o = some l ∧ b ∈ l := by
  cases o with
  | none => exact ⟨fun h => (List.not_mem_nil h).elim, fun ⟨_, h, _⟩ => nomatch h⟩
  | some l => exact ⟨fun h => ⟨l, rfl, h⟩, fun ⟨_, h, hb⟩ => Option.some.inj h ▸ hb⟩

/-- validity row by row: the tables have the same number of rows, and rows `i` of the two have a
    common length `k`, distinct listed indices, and skip marks exactly at the infinite distances. -/
theorem validTable_iff {idx : List (List (Option Nat))} {ds : List (List (Option ℝ))} :
    ValidTable idx ds ↔ idx.length = ds.length ∧
      ∃ k, ∀ (i : Nat) (ix : List (Option Nat)) (d : List (Option ℝ)),
        idx[i]? = some ix → ds[i]? = some d →
          (ix.length = k ∧ d.length = k) ∧ (ix.filterMap id).Nodup ∧
            ∀ p ∈ ix.zip d, (p.1 = none ↔ p.2 = none) := by
  constructor
  · rintro ⟨hlen, ⟨k, h1, h2⟩, h3, h4⟩
    exact ⟨hlen, k, fun i ix d hix hd => ⟨⟨h1 ix (List.mem_of_getElem? hix),
      h2 d (List.mem_of_getElem? hd)⟩, h3 ix (List.mem_of_getElem? hix), h4 i ix d hix hd⟩⟩
  · rintro ⟨hlen, k, h⟩
    -- a row of either table has its partner at the same index
    have row := fun i (hi : i < idx.length) =>
      h i _ _ (List.getElem?_eq_getElem hi) (List.getElem?_eq_getElem (hlen ▸ hi))
    exact ⟨hlen, ⟨k, List.forall_mem_iff_getElem.2 fun i hi => (row i hi).1.1,
        List.forall_mem_iff_getElem.2 fun i hi => (row i (hlen ▸ hi)).1.2⟩,
      List.forall_mem_iff_getElem.2 fun i hi => (row i hi).2.1,
      fun i ix d h1 h2 => (h i ix d h1 h2).2.2⟩

/-- no row's rho is NaN (`inf - inf` in the interpolation, or `0 * inf`). -/
def NoNanRho (tol : ℝ) (lcIdx : Nat) (lcFrac : ℝ) (ds : List (List (Option ℝ))) : Prop :=
  ∀ d ∈ ds, rho tol lcIdx lcFrac d ≠ .nan

/-- for an integral `local_connectivity ≥ 1` (the default is `1.0`) rho is never NaN, whatever
    the row (sorted or not, with or without `inf` entries). -/
theorem rho_ne_nan_integral (tol : ℝ) (htol : 0 ≤ tol) (lcIdx : Nat) (hlc : 0 < lcIdx)
    (row : List (Option ℝ)) : rho tol lcIdx 0 row ≠ .nan := by
  by_cases h : (lcIdx : ℝ) + 0 ≤ ((nzDists row).length : ℝ)
  · rw [C01.rho_nearest rfl h hlc (not_lt.2 htol)]
    cases (nzDists row)[lcIdx - 1]? with
    | none => exact nofun
    | some a => exact C01.ofOpt_ne_nan a
  · rw [C01.rho_of_too_few rfl h]
    split
    · exact C01.maxExt_ne_nan _
    · exact nofun

theorem noNanRho_integral (tol : ℝ) (htol : 0 ≤ tol) (lcIdx : Nat) (hlc : 0 < lcIdx)
    (ds : List (List (Option ℝ))) : NoNanRho tol lcIdx 0 ds :=
  fun d _ => rho_ne_nan_integral tol htol lcIdx hlc d

/-- likewise for `local_connectivity` in `(0, 1)` (`lcIdx = 0`, `0 < lcFrac`). -/
theorem rho_ne_nan_fractional (tol lcFrac : ℝ) (hf : 0 < lcFrac) (row : List (Option ℝ)) :
    rho tol 0 lcFrac row ≠ .nan := by
  by_cases h : ((0 : ℕ) : ℝ) + lcFrac ≤ ((nzDists row).length : ℝ)
  · rw [C01.rho_zero_idx rfl h]
    rcases (nzDists row)[0]? with _ | _ | a
    · exact nofun
    · rw [if_pos hf]
      exact nofun
    · exact nofun
  · rw [C01.rho_of_too_few rfl h]
    split
    · exact C01.maxExt_ne_nan _
    · exact nofun

section
variable (tol minScale target : ℝ) (lcIdx : Nat) (lcFrac : ℝ) (nIter : Nat)

/-- bandwidth and rho of the distance row `d` of the table `ds` (`smooth_knn_dist`). -/
noncomputable def sigmaRho (ds : List (List (Option ℝ))) (d : List (Option ℝ)) : ℝ × Ext ℝ :=
  smoothKnnRow realT tol minScale target lcIdx lcFrac nIter (finiteMean ds.flatten) d

/-- membership strength of a neighbour at finite distance `x`, for bandwidth `σ` and a non-NaN
    rho (`rho = inf`: `x - inf ≤ 0`, strength 1). -/
noncomputable def strengthOf (σ : ℝ) (ρ : Ext ℝ) (x : ℝ) : ℝ :=
  match ρ with
  | .fin r => member realT x r σ
  | _ => 1

/-- the directed membership strength of `j` in the fuzzy neighbourhood of `i`: `0` on the
    diagonal and when `j` is not listed in row `i`, else the strength of the (unique) column of
    row `i` that holds `j`. -/
noncomputable def dirStrength (idx : List (List (Option Nat))) (ds : List (List (Option ℝ)))
    (i j : Nat) : ℝ :=
  if i = j then 0 else
  match idx[i]?, ds[i]? with
  | some ix, some d =>
    match (ix.zip d).find? (fun p => p.1 == some j) with
    | some (_, some x) =>
        strengthOf (sigmaRho tol minScale target lcIdx lcFrac nIter ds d).1
          (sigmaRho tol minScale target lcIdx lcFrac nIter ds d).2 x
    | _ => 0
  | _, _ => 0

theorem sigma_pos (ds : List (List (Option ℝ))) (d : List (Option ℝ)) :
    0 < (sigmaRho tol minScale target lcIdx lcFrac nIter ds d).1 :=
  (C01.C01_sigma_pos_floor tol minScale target lcIdx lcFrac nIter (finiteMean ds.flatten) d).1

end

theorem strengthOf_range {σ : ℝ} (hσ : 0 < σ) (ρ : Ext ℝ) (x : ℝ) :
    0 < strengthOf σ ρ x ∧ strengthOf σ ρ x ≤ 1 := by
  cases ρ with
  | fin r => exact C01.member_range hσ
  | inf => exact ⟨one_pos, le_refl _⟩
  | nan => exact ⟨one_pos, le_refl _⟩

theorem memberExt_eq_strengthOf (σ : ℝ) (ρ : Ext ℝ) (x : ℝ) (hρ : ρ ≠ .nan) :
    memberExt realT x ρ σ = some (strengthOf σ ρ x) := by
  cases ρ with
  | fin r => rfl
  | inf => rfl
  | nan => exact absurd rfl hρ

/-- a listed neighbour at a finite distance, rho not NaN: strength 0 for the sample itself, else
    `strengthOf`. -/
theorem memberEntry_finite (self : Nat) (σ : ℝ) (ρ : Ext ℝ) (hρ : ρ ≠ .nan) (a : Nat) (y : ℝ) :
    memberEntry realT self σ ρ (some a, some y)
      = some (a, some (if a = self then 0 else strengthOf σ ρ y)) := by
  unfold memberEntry
  simp only
  split_ifs
  · rfl
  · rw [memberExt_eq_strengthOf σ ρ y hρ]

/-- in a valid row (index skipped iff distance infinite) these are the only entries. -/
theorem memberEntry_valid (self : Nat) (σ : ℝ) (ρ : Ext ℝ) (hρ : ρ ≠ .nan)
    (p : Option Nat × Option ℝ) (hp : p.1 = none ↔ p.2 = none) (c : Nat) (w : Option ℝ) :
    memberEntry realT self σ ρ p = some (c, w) ↔
      ∃ x, p = (some c, some x) ∧ w = some (if c = self then 0 else strengthOf σ ρ x) := by
  obtain ⟨a, y⟩ := p
  cases a with
  | none => exact ⟨fun h => (nomatch h), fun ⟨_, h, _⟩ => (nomatch h)⟩
  | some a =>
    cases y with
    | none => exact absurd (hp.2 rfl) (fun h => nomatch h)
    | some y =>
      rw [memberEntry_finite self σ ρ hρ a y]
      constructor
      · intro h
        cases h
        exact ⟨y, rfl, rfl⟩
      · rintro ⟨x, h, rfl⟩
        cases h
        rfl

/-- IEEE: `exp(-((d - nan) / sigma))` is NaN; the code's `sigma == 0` shortcut does not fire for a
    positive bandwidth. -/
theorem memberEntry_nan {self c : Nat} (hc : c ≠ self) {σ : ℝ} (hσ : 0 < σ) (x : ℝ) :
    memberEntry realT self σ .nan (some c, some x) = some (c, none) := by
  unfold memberEntry
  simp only
  rw [if_neg hc]
  unfold memberExt
  simp only
  rw [if_neg fun h => not_le.2 hσ h.1]

section
variable {tol minScale target : ℝ} {lcIdx : Nat} {lcFrac : ℝ} {nIter : Nat}
  {idx : List (List (Option Nat))} {ds : List (List (Option ℝ))}

/-- row `i` lists the sample `j ≠ i` at the finite distance `x`; `d` is the distance row. -/
def ListedAt (idx : List (List (Option Nat))) (ds : List (List (Option ℝ))) (i j : Nat)
    (d : List (Option ℝ)) (x : ℝ) : Prop :=
  i ≠ j ∧ ∃ ix, idx[i]? = some ix ∧ ds[i]? = some d ∧ (some j, some x) ∈ ix.zip d

/-- in a valid table every listed neighbour is listed at a finite distance. -/
theorem ValidTable.listedAt_iff (hv : ValidTable idx ds) (i j : Nat) :
    (∃ d x, ListedAt idx ds i j d x) ↔ i ≠ j ∧ some j ∈ (idx[i]?).getD [] := by
  constructor
  · rintro ⟨d, x, hij, ix, hix, -, hp⟩
    exact ⟨hij, mem_getD_nil.2 ⟨ix, hix, (List.of_mem_zip hp).1⟩⟩
  rintro ⟨hij, hl⟩
  obtain ⟨ix, hix, hl⟩ := mem_getD_nil.1 hl
  -- the distance row of the same index has the same length, so the column of `j` has a distance
  obtain ⟨hlen, k, hrows⟩ := validTable_iff.1 hv
  have hd := List.getElem?_eq_getElem (hlen ▸ (List.getElem?_eq_some_iff.1 hix).1)
  obtain ⟨⟨h1, h2⟩, -, h4⟩ := hrows i ix _ hix hd
  obtain ⟨x, hp⟩ := exists_mem_zip_of_mem_left hl (h1.trans h2.symm).le
  cases x with
  | none => exact absurd ((h4 _ hp).2 rfl) (by simp)
  | some x => exact ⟨_, x, hij, ix, hix, hd, hp⟩

/-- the stored triples of the directed matrix of a valid table. -/
theorem mem_assembled_memberRows (hv : ValidTable idx ds) (hn : NoNanRho tol lcIdx lcFrac ds)
    (i j : Nat) (v : ℝ) :
    (i, j, v) ∈ assembled (memberRows realT tol minScale target lcIdx lcFrac nIter idx ds) ↔
      ∃ d x, ListedAt idx ds i j d x ∧
        v = strengthOf (sigmaRho tol minScale target lcIdx lcFrac nIter ds d).1
              (sigmaRho tol minScale target lcIdx lcFrac nIter ds d).2 x := by
  rw [mem_assembled]
  constructor
  · rintro ⟨hne, row, hrow, hmem⟩
    obtain ⟨ix, d, hix, hd, rfl⟩ := memberRows_getElem?_eq_some.1 hrow
    obtain ⟨p, hp, he⟩ := List.mem_map.1 hmem
    obtain ⟨x, rfl, hw⟩ := (memberEntry_valid i _ _ (hn d (List.mem_of_getElem? hd)) p
      (hv.skip_iff i ix d hix hd p hp) j (some v)).1 he
    have hji : j ≠ i := fun h => hne (by rw [Option.some.inj hw, if_pos h])
    rw [if_neg hji] at hw
    exact ⟨d, x, ⟨hji.symm, ix, hix, hd, hp⟩, Option.some.inj hw⟩
  · rintro ⟨d, x, ⟨hij, ix, hix, hd, hp⟩, rfl⟩
    refine ⟨(strengthOf_range (sigma_pos ..) _ x).1.ne',
      _, memberRows_getElem?_eq_some.2 ⟨ix, d, hix, hd, rfl⟩,
      List.mem_map.2 ⟨(some j, some x), hp, ?_⟩⟩
    exact (memberEntry_finite i _ _ (hn d (List.mem_of_getElem? hd)) j x).trans
      (by rw [if_neg (Ne.symm hij)]; rfl)

theorem noNan_memberRows (hv : ValidTable idx ds) (hn : NoNanRho tol lcIdx lcFrac ds) :
    NoNan (memberRows realT tol minScale target lcIdx lcFrac nIter idx ds) := by
  intro row hrow c hc
  obtain ⟨i, hi⟩ := List.getElem?_of_mem hrow
  obtain ⟨ix, d, hix, hd, rfl⟩ := memberRows_getElem?_eq_some.1 hi
  obtain ⟨p, hp, he⟩ := List.mem_map.1 hc
  obtain ⟨_, _, hw⟩ := (memberEntry_valid i _ _ (hn d (List.mem_of_getElem? hd)) p
    (hv.skip_iff i ix d hix hd p hp) c none).1 he
  cases hw

theorem nodup_memberRows (hv : ValidTable idx ds) :
    NoDup (assembled (memberRows realT tol minScale target lcIdx lcFrac nIter idx ds)) := by
  refine nodup_assembled _ fun row hrow => ?_
  obtain ⟨i, hi⟩ := List.getElem?_of_mem hrow
  obtain ⟨ix, d, hix, -, rfl⟩ := memberRows_getElem?_eq_some.1 hi
  exact rowDistinct_memberEntry realT i _ _ ix d (hv.distinct ix (List.mem_of_getElem? hix))

theorem unitValued_memberRows (hv : ValidTable idx ds) (hn : NoNanRho tol lcIdx lcFrac ds) :
    UnitValued (assembled (memberRows realT tol minScale target lcIdx lcFrac nIter idx ds)) :=
  C04.unitValued_of_stored _ (nodup_memberRows hv) fun ⟨i, j, v⟩ ht => by
    obtain ⟨d, x, -, rfl⟩ := (mem_assembled_memberRows hv hn i j v).1 ht
    exact (strengthOf_range (sigma_pos ..) _ x).imp_left le_of_lt

/-- `dirStrength` is the strength of a column that lists `j` at a finite distance, or `0` when
    there is none. -/
theorem dirStrength_cases (hv : ValidTable idx ds) (i j : Nat) :
    (∃ d x, ListedAt idx ds i j d x ∧
      dirStrength tol minScale target lcIdx lcFrac nIter idx ds i j =
        strengthOf (sigmaRho tol minScale target lcIdx lcFrac nIter ds d).1
          (sigmaRho tol minScale target lcIdx lcFrac nIter ds d).2 x)
    ∨ (dirStrength tol minScale target lcIdx lcFrac nIter idx ds i j = 0 ∧
        ∀ d x, ¬ ListedAt idx ds i j d x) := by
  unfold dirStrength
  by_cases hij : i = j
  · exact Or.inr ⟨if_pos hij, fun _ _ h => h.1 hij⟩
  rw [if_neg hij]
  cases hix : idx[i]? with
  | none => exact Or.inr ⟨rfl, fun _ _ ⟨_, _, h, _⟩ => nomatch hix.symm.trans h⟩
  | some ix =>
    cases hd : ds[i]? with
    | none => exact Or.inr ⟨rfl, fun _ _ ⟨_, _, _, h, _⟩ => nomatch hd.symm.trans h⟩
    | some d =>
      simp only
      cases hf : (ix.zip d).find? (fun p => p.1 == some j) with
      | none =>
        refine Or.inr ⟨rfl, ?_⟩
        rintro _ x ⟨-, _, h1, h2, hp⟩
        cases hix.symm.trans h1
        cases hd.symm.trans h2
        exact List.find?_eq_none.1 hf _ hp (by simp)
      | some p =>
        obtain ⟨c, x⟩ := p
        obtain rfl : c = some j := by simpa using List.find?_some hf
        have hp := List.mem_of_find?_eq_some hf
        cases x with
        | none => exact absurd ((hv.skip_iff i ix d hix hd _ hp).2 rfl) (by simp)
        | some x => exact Or.inl ⟨d, x, ⟨hij, ix, hix, hd, hp⟩, rfl⟩

/-- the support of `dirStrength`: the listed neighbours other than the sample itself. -/
theorem dirStrength_ne_zero_iff (hv : ValidTable idx ds) (i j : Nat) :
    dirStrength tol minScale target lcIdx lcFrac nIter idx ds i j ≠ 0
      ↔ i ≠ j ∧ some j ∈ (idx[i]?).getD [] := by
  rw [← hv.listedAt_iff]
  rcases dirStrength_cases hv i j with ⟨d, x, hl, he⟩ | ⟨h0, hno⟩
  · exact iff_of_true (he ▸ (strengthOf_range (sigma_pos ..) _ x).1.ne') ⟨d, x, hl⟩
  · exact iff_of_false (fun h => h h0) fun ⟨d, x, hl⟩ => hno d x hl

theorem lookup_assembled_memberRows (hv : ValidTable idx ds) (hn : NoNanRho tol lcIdx lcFrac ds)
    (i j : Nat) :
    lookup (assembled (memberRows realT tol minScale target lcIdx lcFrac nIter idx ds)) i j
      = dirStrength tol minScale target lcIdx lcFrac nIter idx ds i j := by
  rcases dirStrength_cases hv i j with ⟨d, x, hl, he⟩ | ⟨h0, hno⟩
  · rw [he]
    exact lookup_of_mem_nodup _ (nodup_memberRows hv) i j _
      ((mem_assembled_memberRows hv hn i j _).2 ⟨d, x, hl, rfl⟩)
  · rw [h0]
    refine lookup_eq_zero_of_not_mem _ i j fun v hv' => ?_
    obtain ⟨d, x, hl, -⟩ := (mem_assembled_memberRows hv hn i j v).1 hv'
    exact hno d x hl

/-- the fitted graph of a valid table stores exactly the non-zero blends of the two directed
    strengths. -/
theorem mem_graph_iff (hv : ValidTable idx ds) (hn : NoNanRho tol lcIdx lcFrac ds) (r : ℝ)
    (i j : Nat) (v : ℝ) :
    (i, j, v) ∈ symmetrize r
        (assembled (memberRows realT tol minScale target lcIdx lcFrac nIter idx ds)) ↔
      v = mix r (dirStrength tol minScale target lcIdx lcFrac nIter idx ds i j)
            (dirStrength tol minScale target lcIdx lcFrac nIter idx ds j i) ∧ v ≠ 0 := by
  rw [mem_symmetrize, lookup_assembled_memberRows hv hn, lookup_assembled_memberRows hv hn]

end

section
variable (tol minScale target : ℝ) (lcIdx : Nat) (lcFrac : ℝ) (nIter : Nat)

theorem graphOfKnn_eq_some (r : ℝ) (idx : List (List (Option Nat))) (ds : List (List (Option ℝ)))
    (hv : ValidTable idx ds) (hn : NoNanRho tol lcIdx lcFrac ds) :
    graphOfKnn realT tol minScale target lcIdx lcFrac nIter r idx ds
      = some (symmetrize r
          (assembled (memberRows realT tol minScale target lcIdx lcFrac nIter idx ds))) :=
  (assemble_map_eq_some_iff _ _ _).2 ⟨noNan_memberRows hv hn, rfl⟩

/--
  For a valid table (and no NaN rho) the directed matrix is assembled — no
  strength is NaN —, stores no position twice, its value at `(i, j)` is the directed strength
  of `j` in row `i`, and hence it is `UnitValued`: every value lies in `[0, 1]`.
-/
theorem assemble_lookup (idx : List (List (Option Nat))) (ds : List (List (Option ℝ)))
    (hv : ValidTable idx ds) (hn : NoNanRho tol lcIdx lcFrac ds) :
    ∃ A, assemble (memberRows realT tol minScale target lcIdx lcFrac nIter idx ds) = some A
      ∧ NoDup A
      ∧ (∀ i j, lookup A i j = dirStrength tol minScale target lcIdx lcFrac nIter idx ds i j)
      ∧ UnitValued A :=
  ⟨_, assemble_of_noNan _ (noNan_memberRows hv hn), nodup_memberRows hv,
    lookup_assembled_memberRows hv hn, unitValued_memberRows hv hn⟩

/--
  For every valid kNN table, every parameter setting with no NaN rho, and every
  mix ratio `r ∈ [0, 1]`: every stored entry `(i, j, v)` of the fitted graph has `0 < v ≤ 1`,
  the mirrored entry `(j, i, v)` is stored, `i ≠ j` (the sample's own column gets strength 0, so
  the diagonal is empty), `j` is listed among the k nearest neighbours of `i` or `i` among those
  of `j`, and `v` is the blend of the two directed strengths.
-/
theorem C02_pipeline (r : ℝ) (hr0 : 0 ≤ r) (hr1 : r ≤ 1)
    (idx : List (List (Option Nat))) (ds : List (List (Option ℝ)))
    (hv : ValidTable idx ds) (hn : NoNanRho tol lcIdx lcFrac ds) (G : Coo ℝ)
    (hG : graphOfKnn realT tol minScale target lcIdx lcFrac nIter r idx ds = some G)
    (i j : Nat) (v : ℝ) (h : (i, j, v) ∈ G) :
    0 < v ∧ v ≤ 1
    ∧ (j, i, v) ∈ G
    ∧ i ≠ j
    ∧ (some j ∈ (idx[i]?).getD [] ∨ some i ∈ (idx[j]?).getD [])
    ∧ v = mix r (dirStrength tol minScale target lcIdx lcFrac nIter idx ds i j)
                (dirStrength tol minScale target lcIdx lcFrac nIter idx ds j i) := by
  rw [graphOfKnn_eq_some tol minScale target lcIdx lcFrac nIter r idx ds hv hn,
    Option.some.injEq] at hG
  subst hG
  obtain ⟨-, hpos, hle, hsym, hsupp⟩ :=
    C02_graph_wellformed r hr0 hr1 _ (unitValued_memberRows hv hn) i j v h
  simp only [lookup_assembled_memberRows hv hn, dirStrength_ne_zero_iff hv] at hsupp
  exact ⟨hpos, hle, hsym, hsupp.elim (·.1) (·.1.symm), hsupp.imp (·.2) (·.2),
    ((mem_graph_iff hv hn r i j v).1 h).1⟩

/-- conversely (union part present, `0 < r ≤ 1`): every listed neighbour `j ≠ i` of `i` is joined
    to `i` in the fitted graph — no listed neighbour is lost. -/
theorem edge_of_listed (r : ℝ) (hr0 : 0 < r) (hr1 : r ≤ 1)
    (idx : List (List (Option Nat))) (ds : List (List (Option ℝ)))
    (hv : ValidTable idx ds) (hn : NoNanRho tol lcIdx lcFrac ds) (G : Coo ℝ)
    (hG : graphOfKnn realT tol minScale target lcIdx lcFrac nIter r idx ds = some G)
    (i j : Nat) (hij : i ≠ j) (hl : some j ∈ (idx[i]?).getD []) :
    ∃ v, (i, j, v) ∈ G ∧ (j, i, v) ∈ G := by
  rw [graphOfKnn_eq_some tol minScale target lcIdx lcFrac nIter r idx ds hv hn,
    Option.some.injEq] at hG
  subst hG
  obtain ⟨v, hv'⟩ := (C04.edge_iff_of_pos r hr0 hr1 _ (unitValued_memberRows hv hn) i j).2
    (Or.inl (lookup_assembled_memberRows hv hn i j ▸ (dirStrength_ne_zero_iff hv i j).2 ⟨hij, hl⟩))
  exact ⟨v, hv', symmetric r _ i j v hv'⟩

/-- for an integral `local_connectivity ≥ 1` (the default is 1.0) no hypothesis on rho is needed. -/
theorem C02_pipeline_integral (htol : 0 ≤ tol) (hlc : 0 < lcIdx) (r : ℝ) (hr0 : 0 ≤ r) (hr1 : r ≤ 1)
    (idx : List (List (Option Nat))) (ds : List (List (Option ℝ)))
    (hv : ValidTable idx ds) (G : Coo ℝ)
    (hG : graphOfKnn realT tol minScale target lcIdx 0 nIter r idx ds = some G)
    (i j : Nat) (v : ℝ) (h : (i, j, v) ∈ G) :
    0 < v ∧ v ≤ 1 ∧ (j, i, v) ∈ G ∧ i ≠ j
    ∧ (some j ∈ (idx[i]?).getD [] ∨ some i ∈ (idx[j]?).getD []) :=
  have := C02_pipeline tol minScale target lcIdx 0 nIter r hr0 hr1 idx ds hv
    (noNanRho_integral tol htol lcIdx hlc ds) G hG i j v h
  ⟨this.1, this.2.1, this.2.2.1, this.2.2.2.1, this.2.2.2.2.1⟩

/-- pruning a valid table to its first `k` columns (`knn_indices[:, :n_neighbors]`) keeps it valid. -/
theorem validTable_takeCols (k : Nat) (idx : List (List (Option Nat))) (ds : List (List (Option ℝ)))
    (hv : ValidTable idx ds) : ValidTable (takeCols k idx) (takeCols k ds) := by
  obtain ⟨hlen, c, hrows⟩ := validTable_iff.1 hv
  refine validTable_iff.2 ⟨by rw [C20.length_takeCols, C20.length_takeCols, hlen], min k c, ?_⟩
  intro i ix d hix hd
  rw [C20.takeCols_getElem?] at hix hd
  obtain ⟨ix', hix', rfl⟩ := Option.map_eq_some_iff.1 hix
  obtain ⟨d', hd', rfl⟩ := Option.map_eq_some_iff.1 hd
  obtain ⟨⟨h1, h2⟩, h3, h4⟩ := hrows i ix' d' hix' hd'
  refine ⟨⟨by rw [List.length_take, h1], by rw [List.length_take, h2]⟩,
    ((List.take_sublist k ix').filterMap id).nodup h3, fun p hp => h4 p ?_⟩
  rw [List.zip_eq_zipWith, ← List.take_zipWith] at hp
  rw [List.zip_eq_zipWith]
  exact List.mem_of_mem_take hp

/-- end to end with a supplied `precomputed_knn`: for a valid `cols`-column table with
    `n_neighbors = k ≤ cols` and the right number of rows, the graph computed from the table
    that `_validate_parameters` selects satisfies the C02 clauses, the neighbour clause being
    about the first `k` columns only. -/
theorem C02_pipeline_precomputed (r : ℝ) (hr0 : 0 ≤ r) (hr1 : r ≤ 1)
    (cols k rows n : Nat) (force : Bool) (hk : k ≤ cols) (hrows : rows = n)
    (idx : List (List (Option Nat))) (ds : List (List (Option ℝ)))
    (hv : ValidTable idx ds) (hn : NoNanRho tol lcIdx lcFrac (takeCols k ds)) (G : Coo ℝ)
    (hG : graphOfKnn realT tol minScale target lcIdx lcFrac nIter r
        (C20.usedTable (Api.validatePrecomputedKnn false cols k rows n force) idx)
        (C20.usedTable (Api.validatePrecomputedKnn false cols k rows n force) ds) = some G)
    (i j : Nat) (v : ℝ) (h : (i, j, v) ∈ G) :
    0 < v ∧ v ≤ 1 ∧ (j, i, v) ∈ G ∧ i ≠ j
    ∧ (some j ∈ ((idx[i]?).getD []).take k ∨ some i ∈ ((idx[j]?).getD []).take k) := by
  rw [C20.graph_depends_on_prefix realT tol minScale target lcIdx lcFrac nIter r cols k rows n force
    hk hrows] at hG
  have := C02_pipeline tol minScale target lcIdx lcFrac nIter r hr0 hr1 _ _
    (validTable_takeCols k idx ds hv) hn G hG i j v h
  refine ⟨this.1, this.2.1, this.2.2.1, this.2.2.2.1, ?_⟩
  have hget : ∀ a : Nat, ((takeCols k idx)[a]?).getD [] = ((idx[a]?).getD []).take k := by
    intro a
    rw [C20.takeCols_getElem?]
    cases idx[a]? <;> simp
  rw [← hget i, ← hget j]
  exact this.2.2.2.2.1

/-- the hypothesis `NoNanRho` cannot be dropped: if some row's rho is NaN and that row lists a
    neighbour other than the sample itself at a finite distance, that strength is NaN and the
    graph stage fails (the live code returns a graph with a NaN entry). -/
theorem graphOfKnn_none_of_nan_rho (r : ℝ) (idx : List (List (Option Nat)))
    (ds : List (List (Option ℝ))) (i j : Nat) (ix : List (Option Nat)) (d : List (Option ℝ)) (x : ℝ)
    (hix : idx[i]? = some ix) (hd : ds[i]? = some d) (hp : (some j, some x) ∈ ix.zip d)
    (hij : i ≠ j) (hnan : rho tol lcIdx lcFrac d = .nan) :
    graphOfKnn realT tol minScale target lcIdx lcFrac nIter r idx ds = none := by
  rw [Option.eq_none_iff_forall_ne_some]
  intro G hG
  refine ((assemble_map_eq_some_iff _ _ _).1 hG).1 _ (List.mem_of_getElem?
    (memberRows_getElem?_eq_some.2 ⟨ix, d, hix, hd, rfl⟩)) j
    (List.mem_map.2 ⟨(some j, some x), hp, ?_⟩)
  rw [hnan]
  exact memberEntry_nan (Ne.symm hij) (sigma_pos ..) x

end

/-! ### non-vacuity: a concrete 3-point table

  Three points on a line at 0, 1, 3 with `n_neighbors = 3` and disconnection distance 2.5:
  the pair (1, 2) (distance 2) stays, the pair (0, 2) (distance 3) is disconnected. -/

def exIdx : List (List (Option Nat)) :=
  [[some 0, some 1, none], [some 1, some 0, some 2], [some 2, some 1, none]]

noncomputable def exDs : List (List (Option ℝ)) :=
  [[some 0, some 1, none], [some 0, some 1, some 2], [some 0, some 2, none]]

theorem exValid : ValidTable exIdx exDs := by
  refine validTable_iff.2 ⟨rfl, 3, fun i ix d hix hd => ?_⟩
  -- row by row, by evaluation
  rcases i with _ | _ | _ | i
  · cases hix
    cases hd
    decide
  · cases hix
    cases hd
    decide
  · cases hix
    cases hd
    decide
  · cases hix

/-- the hypotheses of `C02_pipeline` hold for the example table with the default
    `local_connectivity = 1.0` (`lcIdx = 1`, `lcFrac = 0`), any tolerance `≥ 0`, any floor, target,
    iteration count and any `r ∈ (0, 1]`; the graph stage succeeds and the graph contains the
    edges 0–1 and 1–2 in both directions. -/
example (tol minScale target : ℝ) (htol : 0 ≤ tol) (nIter : Nat) (r : ℝ) (hr0 : 0 < r) (hr1 : r ≤ 1) :
    ValidTable exIdx exDs ∧ NoNanRho tol 1 0 exDs ∧
    ∃ G, graphOfKnn realT tol minScale target 1 0 nIter r exIdx exDs = some G ∧
      (∃ v, (0, 1, v) ∈ G ∧ (1, 0, v) ∈ G) ∧ (∃ v, (1, 2, v) ∈ G ∧ (2, 1, v) ∈ G)
      ∧ ∀ v, (0, 2, v) ∉ G := by
  have hn := noNanRho_integral tol htol 1 Nat.one_pos exDs
  have hG := graphOfKnn_eq_some tol minScale target 1 0 nIter r exIdx exDs exValid hn
  refine ⟨exValid, hn, _, hG, ?_, ?_, ?_⟩
  · exact edge_of_listed tol minScale target 1 0 nIter r hr0 hr1 exIdx exDs exValid hn _ hG 0 1
      (by decide) (by decide)
  · exact edge_of_listed tol minScale target 1 0 nIter r hr0 hr1 exIdx exDs exValid hn _ hG 1 2
      (by decide) (by decide)
  · intro v hv
    obtain ⟨_, _, _, _, hl, _⟩ := C02_pipeline tol minScale target 1 0 nIter r hr0.le hr1 exIdx exDs
      exValid hn _ hG 0 2 v hv
    revert hl
    decide

theorem exNanRho : rho (1/100000 : ℝ) 1 (1/2) [some 0, some 0, none, none] = .nan := by
  have e : nzDists [some (0:ℝ), some 0, none, none] = [none, none] := by
    rw [C01.nzDists_cons_zero, C01.nzDists_cons_zero]
    rfl
  rw [C01.rho_interp e (by norm_num) Nat.one_pos (by norm_num) (a := none) (b := none) rfl rfl]
  rfl

/-- a table on which rho *is* NaN: `local_connectivity = 1.5`, a duplicate point (distance 0) and
    two disconnected neighbours — the interpolation computes `inf + 0.5 * (inf - inf)`.  The table
    is valid, so `NoNanRho` is a genuine extra hypothesis for fractional `local_connectivity`. -/
example : rho (1/100000 : ℝ) 1 (1/2) [some 0, some 0, none, none] = .nan := exNanRho

/-- and on the corresponding two-point table (two identical points, two disconnected columns) the
    graph stage does fail with a NaN strength: the hypotheses of `graphOfKnn_none_of_nan_rho` are
    satisfiable. -/
example (minScale target : ℝ) (nIter : Nat) (r : ℝ) :
    graphOfKnn realT (1/100000) minScale target 1 (1/2) nIter r
      [[some 0, some 1, none, none], [some 1, some 0, none, none]]
      [[some 0, some 0, none, none], [some 0, some 0, none, none]] = none :=
  -- row 0 lists sample 1 at distance 0 in its second column
  graphOfKnn_none_of_nan_rho (1/100000) minScale target 1 (1/2) nIter r _ _ 0 1
    [some 0, some 1, none, none] [some 0, some 0, none, none] 0 rfl rfl (.tail _ (.head _))
    (by decide) exNanRho

end C02
end Umap
