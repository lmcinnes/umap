/-
  C03 (sample reordering) — "Reordering the samples reorders the graph's rows and columns
  identically", on the end-to-end graph-stage model `Graph.graphOfKnn` (C02Pipeline).

  A renaming of the samples by a permutation `σ` of the indices acts on a kNN table by moving row
  `i` to row `σ i` and renaming every listed neighbour `j` to `σ j`; the distances travel with
  their row.  (That the kNN table of permuted *data* is the renamed table is the statement that
  the k smallest distances of a row depend only on the multiset of the row, `C03.knn_row_perm_invariant`,
  and on the metric being evaluated pairwise; ties are outside the property's scope.)

  `graph_perm_equivariant`: for a valid table and its renaming, `(i, j, v)` is a stored entry of
  the fitted graph iff `(σ i, σ j, v)` is a stored entry of the graph of the renamed table.
  The only global quantity of the graph stage, the mean of all finite distances used by the
  bandwidth floor, is a function of the multiset of the table's entries (`finiteMean_perm`).
-/
import UmapProps.C02Pipeline

namespace Umap

namespace C03
open Graph Knn C02

/-! ### the global mean depends only on the multiset of distances -/

theorem finiteMean_perm {xs ys : List (Option ℝ)} (h : xs.Perm ys) :
    finiteMean xs = finiteMean ys := by
  unfold finiteMean finites
  have hp : (xs.filterMap id).Perm (ys.filterMap id) := h.filterMap id
  simp only [hp.length_eq, sumL_eq_sum, hp.sum_eq]

/-- `(idx', ds')` is `(idx, ds)` with the samples renamed by `σ`: row `i` becomes row `σ i`, its
    listed neighbours are renamed, its distances are unchanged. -/
structure Renamed (σ : Equiv.Perm Nat) (idx idx' : List (List (Option Nat)))
    (ds ds' : List (List (Option ℝ))) : Prop where
  rows_idx : ∀ i, idx'[σ i]? = (idx[i]?).map (List.map (Option.map σ))
  rows_ds : ∀ i, ds'[σ i]? = ds[i]?
  flat : ds'.flatten.Perm ds.flatten

section
variable {tol minScale target : ℝ} {lcIdx : Nat} {lcFrac : ℝ} {nIter : Nat} {σ : Equiv.Perm Nat}
  {idx idx' : List (List (Option Nat))} {ds ds' : List (List (Option ℝ))}

/-- looking up the renamed neighbour in the renamed row finds the renamed entry (`σ` is injective). -/
theorem find_renamed (σ : Equiv.Perm Nat) (j : Nat) (ix : List (Option Nat)) (d : List (Option ℝ)) :
    ((ix.map (Option.map σ)).zip d).find? (fun p => p.1 == some (σ j))
      = ((ix.zip d).find? (fun p => p.1 == some j)).map (fun p => (p.1.map σ, p.2)) := by
  have hk : ((fun p : Option Nat × Option ℝ => p.1 == some (σ j)) ∘ Prod.map (Option.map σ) id)
      = fun p => p.1 == some j :=
    funext fun p => (Option.map_injective σ.injective).beq_eq (a := p.1) (b := some j)
  rw [List.zip_map_left, List.find?_map, hk]
  rfl

theorem sigmaRho_renamed (h : ds'.flatten.Perm ds.flatten)
    (d : List (Option ℝ)) :
    sigmaRho tol minScale target lcIdx lcFrac nIter ds' d
      = sigmaRho tol minScale target lcIdx lcFrac nIter ds d := by
  unfold sigmaRho
  rw [finiteMean_perm h]

theorem dirStrength_renamed (h : Renamed σ idx idx' ds ds') (i j : Nat) :
    dirStrength tol minScale target lcIdx lcFrac nIter idx' ds' (σ i) (σ j)
      = dirStrength tol minScale target lcIdx lcFrac nIter idx ds i j := by
  unfold dirStrength
  rw [h.rows_idx i, h.rows_ds i]
  refine if_congr σ.injective.eq_iff rfl ?_
  cases idx[i]? with
  | none => rfl
  | some ix =>
    cases ds[i]? with
    | none => rfl
    | some d =>
      simp only [Option.map_some]
      rw [find_renamed σ j ix d, sigmaRho_renamed h.flat]
      cases (ix.zip d).find? (fun p => p.1 == some j) with
      | none => rfl
      | some p =>
        obtain ⟨c, _ | x⟩ := p
        · rfl
        · rfl

/-- the two row clauses of `Renamed` read from the renamed table: its row `k` is row `σ⁻¹ k`. -/
theorem Renamed.idx_symm (h : Renamed σ idx idx' ds ds') (k : Nat) :
    idx'[k]? = (idx[σ.symm k]?).map (List.map (Option.map σ)) := by
  rw [← h.rows_idx, Equiv.apply_symm_apply]

theorem Renamed.ds_symm (h : Renamed σ idx idx' ds ds') (k : Nat) : ds'[k]? = ds[σ.symm k]? := by
  rw [← h.rows_ds, Equiv.apply_symm_apply]

theorem mem_ds_of_renamed (h : Renamed σ idx idx' ds ds') {d : List (Option ℝ)} (hd : d ∈ ds') :
    d ∈ ds := by
  obtain ⟨k, hk⟩ := List.getElem?_of_mem hd
  exact List.mem_of_getElem? (h.ds_symm k ▸ hk)

theorem noNanRho_renamed (h : Renamed σ idx idx' ds ds') (hn : NoNanRho tol lcIdx lcFrac ds) :
    NoNanRho tol lcIdx lcFrac ds' :=
  fun d hd => hn d (mem_ds_of_renamed h hd)

theorem filterMap_renamed (σ : Equiv.Perm Nat) (ix : List (Option Nat)) :
    (ix.map (Option.map σ)).filterMap id = (ix.filterMap id).map σ := by
  rw [List.filterMap_map, List.map_filterMap]
  rfl

end

section
variable (tol minScale target : ℝ) (lcIdx : Nat) (lcFrac : ℝ) (nIter : Nat)

theorem validTable_renamed (σ : Equiv.Perm Nat) (idx idx' : List (List (Option Nat)))
    (ds ds' : List (List (Option ℝ))) (h : Renamed σ idx idx' ds ds') (hv : ValidTable idx ds) :
    ValidTable idx' ds' := by
  obtain ⟨hlen, c, hrows⟩ := validTable_iff.1 hv
  refine validTable_iff.2 ⟨?_, c, ?_⟩
  · -- both tables have a row `k` exactly when the original ones have a row `σ⁻¹ k`
    refine eq_of_forall_lt_iff fun k => ?_
    rw [← isSome_getElem? idx' k, ← isSome_getElem? ds' k, h.idx_symm, h.ds_symm,
      Option.isSome_map, isSome_getElem?, isSome_getElem?, hlen]
  · intro k ix' d hk hd
    rw [h.idx_symm] at hk
    obtain ⟨ix, hix, rfl⟩ := Option.map_eq_some_iff.1 hk
    obtain ⟨⟨h1, h2⟩, h3, h4⟩ := hrows _ ix d hix (h.ds_symm k ▸ hd)
    refine ⟨⟨(List.length_map _).trans h1, h2⟩, ?_, fun p hp => ?_⟩
    · rw [filterMap_renamed σ ix]
      exact h3.map σ.injective
    · rw [List.zip_map_left, List.mem_map] at hp
      obtain ⟨q, hq, rfl⟩ := hp
      exact Option.map_eq_none_iff.trans (h4 q hq)

/--
  Renaming the samples of a valid kNN table by a permutation `σ`
  renames the rows and columns of the fitted graph by `σ` and changes nothing else: both graph
  stages succeed, and `(i, j, v)` is stored in the graph of the original table iff
  `(σ i, σ j, v)` is stored in the graph of the renamed table — for every mix ratio, every
  tolerance / floor / target / iteration count and every `local_connectivity` without NaN rho.
-/
theorem graph_perm_equivariant (r : ℝ) (σ : Equiv.Perm Nat)
    (idx idx' : List (List (Option Nat))) (ds ds' : List (List (Option ℝ)))
    (h : Renamed σ idx idx' ds ds') (hv : ValidTable idx ds)
    (hn : NoNanRho tol lcIdx lcFrac ds) :
    ∃ G G', graphOfKnn realT tol minScale target lcIdx lcFrac nIter r idx ds = some G
      ∧ graphOfKnn realT tol minScale target lcIdx lcFrac nIter r idx' ds' = some G'
      ∧ ∀ i j v, (i, j, v) ∈ G ↔ (σ i, σ j, v) ∈ G' := by
  have hv' := validTable_renamed σ idx idx' ds ds' h hv
  have hn' := noNanRho_renamed h hn
  refine ⟨_, _, graphOfKnn_eq_some tol minScale target lcIdx lcFrac nIter r idx ds hv hn,
    graphOfKnn_eq_some tol minScale target lcIdx lcFrac nIter r idx' ds' hv' hn', ?_⟩
  intro i j v
  rw [mem_graph_iff hv hn, mem_graph_iff hv' hn', dirStrength_renamed h, dirStrength_renamed h]

/-- the blends of the directed strengths at `(i, j)` and `(σ i, σ j)` agree, for any table; for a
    valid one without NaN rho they are the values of the two graphs, stored or not
    (`mem_graph_iff`). -/
theorem graph_perm_lookup (r : ℝ) (σ : Equiv.Perm Nat)
    (idx idx' : List (List (Option Nat))) (ds ds' : List (List (Option ℝ)))
    (h : Renamed σ idx idx' ds ds') (i j : Nat) :
    mix r (dirStrength tol minScale target lcIdx lcFrac nIter idx' ds' (σ i) (σ j))
          (dirStrength tol minScale target lcIdx lcFrac nIter idx' ds' (σ j) (σ i))
      = mix r (dirStrength tol minScale target lcIdx lcFrac nIter idx ds i j)
          (dirStrength tol minScale target lcIdx lcFrac nIter idx ds j i) := by
  rw [dirStrength_renamed h, dirStrength_renamed h]

end

/-! ### non-vacuity: the 3-point table of C02Pipeline with samples 0 and 2 swapped -/

def exIdx' : List (List (Option Nat)) :=
  [[some 0, some 1, none], [some 1, some 2, some 0], [some 2, some 1, none]]

noncomputable def exDs' : List (List (Option ℝ)) :=
  [[some 0, some 2, none], [some 0, some 1, some 2], [some 0, some 1, none]]

theorem swap02_add3 (i : Nat) : (Equiv.swap 0 2) (i + 3) = i + 3 :=
  Equiv.swap_apply_of_ne_of_ne (by omega) (by omega)

theorem exRenamed : Renamed (Equiv.swap 0 2) exIdx exIdx' exDs exDs' where
  rows_idx := by
    intro i
    rcases i with _ | _ | _ | i
    · decide
    · decide
    · decide
    · rw [swap02_add3]; rfl
  rows_ds := by
    intro i
    rcases i with _ | _ | _ | i
    · rfl
    · rfl
    · rfl
    · rw [swap02_add3]; rfl
  flat := (List.reverse_perm exDs).flatten

example (tol minScale target : ℝ) (htol : 0 ≤ tol) (nIter : Nat) (r : ℝ) :
    ∃ G G', graphOfKnn realT tol minScale target 1 0 nIter r exIdx exDs = some G
      ∧ graphOfKnn realT tol minScale target 1 0 nIter r exIdx' exDs' = some G'
      ∧ ∀ i j v, (i, j, v) ∈ G ↔ (Equiv.swap 0 2 i, Equiv.swap 0 2 j, v) ∈ G' :=
  graph_perm_equivariant tol minScale target 1 0 nIter r _ _ _ _ _ exRenamed exValid
    (noNanRho_integral tol htol 1 Nat.one_pos exDs)

end C03
end Umap
