/-
  C19 — AlignedUMAP relates consecutive datasets consistently in both directions.

  Model: `Umap.Relations.expandEntry` (aligned_umap.py `expand_relations`), mirroring the two
  loops and their boundary tests index by index.  Theorems: the forward half of the tensor is the
  composition of the relation dicts, the backward half the composition of the inverses, the two
  are adjoint for injective dicts, nothing is dropped at either end of the sequence, the centre
  column is empty; and the pinned revision's boundary test is refuted on a two-dataset witness.
-/
import UmapModel.Relations
import UmapProofs.Basic

namespace Umap
namespace C19
open Relations

/-! ### the index loops are folds over sublists -/

theorem fwdLoop_succ {dicts : List Dict} {i n : Nat} (acc : Option Nat)
    (h : i + n < dicts.length) :
    fwdLoop dicts i (n + 1) acc = (fwdLoop dicts i n acc).bind (dget dicts[i + n]) := by
  simp only [fwdLoop, List.getElem?_eq_getElem h]

theorem bwdLoop_succ {rev : List Dict} {i n : Nat} (acc : Option Nat) (hn : n < i)
    (h : i - n - 1 < rev.length) :
    bwdLoop rev i (n + 1) acc = (bwdLoop rev i n acc).bind (dget rev[i - n - 1]) := by
  simp only [bwdLoop, if_neg (Nat.not_lt.2 hn), List.getElem?_eq_getElem h]

theorem fwdLoop_eq (dicts : List Dict) (i n : Nat) (acc : Option Nat) (h : i + n ≤ dicts.length) :
    fwdLoop dicts i n acc = ((dicts.drop i).take n).foldl (fun a d => a.bind (dget d)) acc := by
  induction n with
  | zero => rfl
  | succ n ih =>
    have hlt : i + n < dicts.length := h
    have hn : n < (dicts.drop i).length := by
      rw [List.length_drop]; exact Nat.lt_sub_of_add_lt (Nat.add_comm i n ▸ hlt)
    rw [fwdLoop_succ _ hlt, ih hlt.le, foldl_take_succ _ _ n hn, List.getElem_drop]

theorem bwdLoop_eq (rev : List Dict) (i n : Nat) (acc : Option Nat) (hn : n ≤ i)
    (hi : i ≤ rev.length) :
    bwdLoop rev i n acc = (((rev.take i).reverse).take n).foldl (fun a d => a.bind (dget d)) acc := by
  induction n with
  | zero => rfl
  | succ n ih =>
    have hlt : n < i := hn
    have hlen : n < ((rev.take i).reverse).length := by
      rw [List.length_reverse, List.length_take, min_eq_left hi]; exact hlt
    have hidx : i - n - 1 < rev.length :=
      (Nat.sub_lt (Nat.sub_pos_of_lt hlt) Nat.one_pos).trans_le ((Nat.sub_le i n).trans hi)
    rw [bwdLoop_succ _ hlt hidx, ih hlt.le, foldl_take_succ _ _ n hlen,
      List.getElem_reverse, List.getElem_take]
    simp only [List.length_take, min_eq_left hi, Nat.sub_right_comm i 1 n]

/-! ### forward and backward halves are compositions -/

/-- the forward half in the code's own coordinates: column `w + j + 1`, `j < w`. -/
theorem expandEntry_fwd (b : Bool) (dicts : List Dict) {w j : Nat} (i k : Nat) (hj : j < w) :
    expandEntry b dicts w i (w + j + 1) k
      = if (if b then decide (i + j + 1 ≥ dicts.length) else decide (i + j ≥ dicts.length))
        then none else fwdLoop dicts i (j + 1) (some k) := by
  unfold expandEntry
  dsimp only
  rw [if_pos (Nat.lt_succ_of_le (Nat.le_add_right w j)),
    show w + j + 1 - w - 1 = j by rw [Nat.add_assoc, Nat.add_sub_cancel_left, Nat.add_sub_cancel],
    if_pos hj]

/-- the backward half: column `w - 1 - m`, `m < w`. -/
theorem expandEntry_bwd (b : Bool) (dicts : List Dict) {w m : Nat} (i k : Nat) (hm : m < w) :
    expandEntry b dicts w i (w - 1 - m) k
      = if i < m + 1 then none else bwdLoop (dicts.map invert) i (m + 1) (some k) := by
  unfold expandEntry
  dsimp only
  have hw : w - 1 - m < w :=
    (Nat.sub_le _ m).trans_lt (Nat.sub_lt (Nat.zero_lt_of_lt hm) Nat.one_pos)
  rw [if_neg (Nat.lt_asymm hw), if_pos hw, Nat.sub_sub_self (Nat.le_sub_one_of_lt hm)]

/-- forward: within the window (`j < w`) and as long as the target dataset exists
    (`i + j + 1 ≤ L`, there being `L + 1` datasets), entry `(i, w + j + 1, k)` is the sample
    reached from `k` by following relations `i, i+1, …, i+j`. -/
theorem forward_is_composition (dicts : List Dict) (w i j k : Nat) (hj : j < w)
    (hex : i + j + 1 ≤ dicts.length) :
    expandEntry false dicts w i (w + j + 1) k = chain ((dicts.drop i).take (j + 1)) k := by
  rw [expandEntry_fwd _ _ _ _ hj,
    if_neg (by rw [if_neg Bool.false_ne_true, decide_eq_true_eq]; exact Nat.not_le.2 hex)]
  exact fwdLoop_eq dicts i (j + 1) (some k) hex

/-- backward: entry `(i, w - 1 - m, k)` (`m < w`, `m + 1 ≤ i`) is the sample reached from `k`
    by following the inverses of relations `i-1, i-2, …, i-m-1`. -/
theorem backward_is_composition (b : Bool) (dicts : List Dict) (w i m k : Nat) (hm : m < w)
    (hi : m + 1 ≤ i) (hL : i ≤ dicts.length) :
    expandEntry b dicts w i (w - 1 - m) k
      = chain ((((dicts.map invert).take i).reverse).take (m + 1)) k := by
  rw [expandEntry_bwd _ _ _ _ hm, if_neg (Nat.not_lt.2 hi)]
  exact bwdLoop_eq (dicts.map invert) i (m + 1) (some k) hi (by simpa using hL)

/-- the centre column is never written. -/
theorem centre_is_none (b : Bool) (dicts : List Dict) (w i k : Nat) :
    expandEntry b dicts w i w k = none := by
  unfold expandEntry; simp

/-- nothing is dropped at the ends: a forward entry is empty only if the composition is
    undefined (some link is missing) — never merely because the target is the last dataset. -/
theorem nothing_dropped_forward (dicts : List Dict) (w i j k m : Nat) (hj : j < w)
    (hex : i + j + 1 ≤ dicts.length) (hc : chain ((dicts.drop i).take (j + 1)) k = some m) :
    expandEntry false dicts w i (w + j + 1) k = some m := by
  rw [forward_is_composition dicts w i j k hj hex]; exact hc

theorem nothing_dropped_backward (b : Bool) (dicts : List Dict) (w i m k r : Nat) (hm : m < w)
    (hi : m + 1 ≤ i) (hL : i ≤ dicts.length)
    (hc : chain ((((dicts.map invert).take i).reverse).take (m + 1)) k = some r) :
    expandEntry b dicts w i (w - 1 - m) k = some r := by
  rw [backward_is_composition b dicts w i m k hm hi hL]; exact hc

/-! ### forward and backward are adjoint for injective dicts -/

theorem dget_mem {d : Dict} {a b : Nat} (h : dget d a = some b) : (a, b) ∈ d := by
  induction d with
  | nil => simp [dget] at h
  | cons p t ih =>
    obtain ⟨x, y⟩ := p
    unfold dget at h
    split_ifs at h with hx
    · simp only [Option.some.injEq] at h; subst hx; subst h; exact List.mem_cons_self
    · exact List.mem_cons_of_mem _ (ih h)

theorem dget_of_mem {d : Dict} (hk : (d.map Prod.fst).Nodup) {a b : Nat} (h : (a, b) ∈ d) :
    dget d a = some b := by
  induction d with
  | nil => cases h
  | cons p t ih =>
    obtain ⟨x, y⟩ := p
    rw [List.map_cons, List.nodup_cons] at hk
    rcases List.mem_cons.1 h with h | h
    · cases h; exact if_pos rfl
    · -- the key `a` occurs in the tail, so it is not the head's key
      exact (if_neg fun hx => hk.1 (List.mem_map.2 ⟨(a, b), h, hx.symm⟩)).trans (ih hk.2 h)

theorem dget_invert {d : Dict} (hd : Injective d) {a b : Nat} (h : dget d a = some b) :
    dget (invert d) b = some a := by
  -- the keys of `invert d` are the values of `d`
  refine dget_of_mem ?_ (List.mem_map.2 ⟨(a, b), dget_mem h, rfl⟩)
  rw [invert, List.map_map]
  exact hd.2

/-- the fold of `chain`, started from any intermediate result (`none` is absorbing). -/
theorem foldl_dget (ds : List Dict) (o : Option Nat) :
    ds.foldl (fun a d => a.bind (dget d)) o = o.bind (chain ds) := by
  cases o with
  | some k => rfl
  | none =>
    induction ds with
    | nil => rfl
    | cons e es ih => exact ih

theorem chain_cons (d : Dict) (ds : List Dict) (k : Nat) :
    chain (d :: ds) k = (dget d k).bind (fun x => chain ds x) :=
  foldl_dget ds (dget d k)

theorem chain_append (ds es : List Dict) (k : Nat) :
    chain (ds ++ es) k = (chain ds k).bind (fun x => chain es x) := by
  unfold chain
  rw [List.foldl_append]
  exact foldl_dget es _

/-- following injective dicts forward from `k` to `m` means following their inverses, in reverse
    order, leads from `m` back to `k`. -/
theorem chain_adjoint (ds : List Dict) (hinj : ∀ d ∈ ds, Injective d) (k m : Nat)
    (h : chain ds k = some m) : chain ((ds.reverse).map invert) m = some k := by
  induction ds generalizing k with
  | nil => cases h; rfl
  | cons d ds ih =>
    rw [chain_cons, Option.bind_eq_some_iff] at h
    obtain ⟨x, hd, h⟩ := h
    rw [List.reverse_cons, List.map_append, chain_append,
      ih (fun e he => hinj e (List.mem_cons_of_mem _ he)) x h]
    -- what is left, `chain [invert d] x`, unfolds to `dget (invert d) x`
    exact dget_invert (hinj d List.mem_cons_self) hd

theorem take_reverse_take {α : Type} (l : List α) (i j : Nat) (h : i + j + 1 ≤ l.length) :
    ((l.take (i + j + 1)).reverse).take (j + 1) = ((l.drop i).take (j + 1)).reverse := by
  rw [List.take_reverse, List.length_take, min_eq_left h, List.drop_take,
    Nat.add_assoc, Nat.add_sub_cancel, Nat.add_sub_cancel_left]

/--
  **C19 (adjointness).** For injective relation dicts: whenever sample `k` of dataset `i` is
  related forward to sample `m` of dataset `i + j + 1`, sample `m` of dataset `i + j + 1` is
  related backward (same offset) to sample `k` of dataset `i`.
-/
theorem C19_adjoint (dicts : List Dict) (hinj : ∀ d ∈ dicts, Injective d) (w i j k m : Nat)
    (hj : j < w) (hex : i + j + 1 ≤ dicts.length)
    (h : expandEntry false dicts w i (w + j + 1) k = some m) :
    expandEntry false dicts w (i + j + 1) (w - 1 - j) m = some k := by
  rw [forward_is_composition dicts w i j k hj hex] at h
  rw [backward_is_composition false dicts w (i + j + 1) j m hj
    (Nat.succ_le_succ (Nat.le_add_left j i)) hex]
  rw [← List.map_take, ← List.map_reverse, ← List.map_take,
    take_reverse_take dicts i j hex]
  apply chain_adjoint _ _ _ _ h
  intro d hd
  exact hinj d (List.mem_of_mem_drop (List.mem_of_mem_take hd))

/-! ### the pinned revision's boundary test drops the relation into the last dataset -/

/-- two datasets, one relation `{0 ↦ 1, 1 ↦ 0}`: the pinned test leaves the forward entry empty
    although the composition is defined; the repaired test does not. -/
theorem pinned_drops_last :
    expandEntry true [[(0, 1), (1, 0)]] 1 0 2 0 = none
    ∧ chain (([[(0, 1), (1, 0)]] : List Dict).drop 0 |>.take 1) 0 = some 1
    ∧ expandEntry false [[(0, 1), (1, 0)]] 1 0 2 0 = some 1 := by
  decide

/-! ### non-vacuity: three datasets, window 2 -/

def exDicts : List Dict := [[(0, 1), (1, 2)], [(1, 0), (2, 2)]]

example : ∀ d ∈ exDicts, Injective d := by
  unfold exDicts Injective; decide
example : expandEntry false exDicts 2 0 4 0 = some 0 := by decide
example : expandEntry false exDicts 2 2 0 0 = some 0 := by decide

end C19
end Umap
