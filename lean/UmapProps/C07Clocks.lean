/-
  C07Clocks — the two sampling clocks of an edge (C07 (a), negative_sample_rate).

  Model: `Umap.Sgd` (layouts.py `_optimize_layout_euclidean_single_epoch`,
  `_optimize_layout_generic_single_epoch`: the lines that test and advance
  `epoch_of_next_sample[i]` and `epoch_of_next_negative_sample[i]`).

  The two clocks of one edge are first studied in isolation (`runClocks`, `runClocks_inv`) and then
  shown to *be* the entries `eons[i]`, `eonns[i]` of the optimiser's state, for every loop whose
  steps run the two clock lines (`loops_clock`) — so for both kernels.
-/
import UmapModel.Sgd
import UmapProps.C07

namespace Umap
namespace C07
open Sgd

section NegClockDef
variable {α : Type} [Add α] [Sub α] [Mul α] [Div α] [LE α] [DecidableLE α] [NatCast α]

/-- the two negative-sample clock lines of `edgeStep`, in isolation:
    `n_neg = int((n - eonns) / epns)`; `eonns += n_neg * epns`.  State: `(eonns, drawn)`. -/
def negClockStep (T : Transc α) (epns : α) (st : α × Nat) (n : Nat) : α × Nat :=
  let nNeg := T.trunc (((n : α) - st.1) / epns)
  (st.1 + T.ofInt nNeg * epns, st.2 + nNeg.toNat)

/-- both clocks of one edge. -/
structure Clocks (α : Type) where
  eons : α
  eonns : α
  visits : Nat
  drawn : Nat

/-- the clock part of `edgeStep` in epoch `n`. -/
def clocksStep (T : Transc α) (eps epns : α) (st : Clocks α) (n : Nat) : Clocks α :=
  if st.eons ≤ (n : α) then
    let r := negClockStep T epns (st.eonns, st.drawn) n
    { eons := st.eons + eps, eonns := r.1, visits := st.visits + 1, drawn := r.2 }
  else st

/-- epochs `0 .. N-1` from the initial clocks `(eps, epns)` (`optimize_layout_euclidean` copies
    `epochs_per_sample` / `epochs_per_negative_sample` into the two clocks). -/
def runClocks (T : Transc α) (eps epns : α) (N : Nat) : Clocks α :=
  (List.range N).foldl (clocksStep T eps epns) ⟨eps, epns, 0, 0⟩

end NegClockDef

section Gen
variable {α : Type} [Add α] [Sub α] [Mul α] [Div α] [LE α] [DecidableLE α] [NatCast α]

theorem runClocks_succ (T : Transc α) (eps epns : α) (N : Nat) :
    runClocks T eps epns (N + 1) = clocksStep T eps epns (runClocks T eps epns N) N :=
  foldl_range_succ _ _ N

theorem clocksStep_due {T : Transc α} {eps epns : α} {st : Clocks α} {n : Nat}
    (h : st.eons ≤ (n : α)) :
    clocksStep T eps epns st n
      = ⟨st.eons + eps, (negClockStep T epns (st.eonns, st.drawn) n).1, st.visits + 1,
          (negClockStep T epns (st.eonns, st.drawn) n).2⟩ := if_pos h

theorem clocksStep_not_due {T : Transc α} {eps epns : α} {st : Clocks α} {n : Nat}
    (h : ¬ st.eons ≤ (n : α)) : clocksStep T eps epns st n = st := if_neg h

theorem clocksStep_pos (T : Transc α) (eps epns : α) (st : Clocks α) (n : Nat) :
    ((clocksStep T eps epns st n).eons, (clocksStep T eps epns st n).visits)
      = edgeClock eps (st.eons, st.visits) n := by
  unfold clocksStep edgeClock
  split_ifs <;> rfl

theorem runClocks_pos_gen (T : Transc α) (eps epns : α) (N : Nat) :
    ((runClocks T eps epns N).eons, (runClocks T eps epns N).visits) = runClock eps N := by
  induction N with
  | zero => rfl
  | succ N ih => rw [runClocks_succ, runClock_succ, clocksStep_pos, ih]

theorem runClocks_eons (T : Transc α) (eps epns : α) (N : Nat) :
    (runClocks T eps epns N).eons = (runClock eps N).1 :=
  congrArg Prod.fst (runClocks_pos_gen T eps epns N)

end Gen

theorem runClocks_pos (eps epns : ℝ) (N : ℕ) :
    ((runClocks realT eps epns N).eons, (runClocks realT eps epns N).visits) = runClock eps N :=
  runClocks_pos_gen realT eps epns N

/-- `negClockStep` over ℝ from a clock that is not ahead of the epoch: `⌊(n - eonns)/epns⌋` draws. -/
theorem negClockStep_real (epns : ℝ) (st : ℝ × ℕ) (n : ℕ) (hx : 0 ≤ ((n : ℝ) - st.1) / epns) :
    negClockStep realT epns st n
      = (st.1 + (⌊((n : ℝ) - st.1) / epns⌋₊ : ℝ) * epns, st.2 + ⌊((n : ℝ) - st.1) / epns⌋₊) := by
  simp only [negClockStep, realT_trunc_of_nonneg hx, Int.toNat_natCast]
  exact congrArg (fun z : ℝ => (st.1 + z * epns, _)) (Int.cast_natCast _)

theorem negClockStep_bounds (epns : ℝ) (h : 0 < epns) (st : ℝ × ℕ) (n : ℕ) (hle : st.1 ≤ n) :
    (negClockStep realT epns st n).1 ≤ n ∧ (n : ℝ) < (negClockStep realT epns st n).1 + epns := by
  have hx : 0 ≤ ((n : ℝ) - st.1) / epns := div_nonneg (sub_nonneg.2 hle) h.le
  rw [negClockStep_real epns st n hx]
  dsimp only
  rw [add_assoc, ← add_one_mul]
  -- `⌊x⌋·epns ≤ n - eonns < (⌊x⌋ + 1)·epns` for `x = (n - eonns) / epns`
  exact ⟨le_sub_iff_add_le'.1 ((le_div_iff₀ h).1 (Nat.floor_le hx)),
    sub_lt_iff_lt_add'.1 ((div_lt_iff₀ h).1 (Nat.lt_floor_add_one _))⟩

/-- the positive clock runs on its own (`runClocks_pos_gen`), whatever the negative period:
    closed form, and ahead of epoch `N - 1` (`runClock_inv`). -/
theorem runClocks_pos_inv (eps p : ℝ) (h1 : 1 ≤ eps) (N : ℕ) :
    let r := runClocks realT eps p N
    r.eons = ((r.visits : ℝ) + 1) * eps ∧ (N : ℝ) - 1 < r.eons := by
  obtain ⟨e, -, hi⟩ := runClock_inv eps h1 N
  rw [← runClocks_pos_gen realT eps p N] at e hi
  exact ⟨e, hi⟩

/-- the negative clock at the start of epoch `N`, for any periods `1 ≤ eps`, `0 < p ≤ eps`: closed
    form, and it trails the positive clock by less than `eps + p`. -/
theorem runClocks_inv (eps p : ℝ) (h1 : 1 ≤ eps) (hp : 0 < p) (hpe : p ≤ eps) (N : ℕ) :
    let r := runClocks realT eps p N
    r.eonns = ((r.drawn : ℝ) + 1) * p ∧ r.eonns ≤ r.eons ∧ r.eons < r.eonns + eps + p := by
  induction N with
  | zero =>
    simp only [runClocks, List.range_zero, List.foldl_nil, Nat.cast_zero, zero_add, one_mul]
    exact ⟨trivial, hpe, lt_add_of_le_of_pos (le_add_of_nonneg_left hp.le) hp⟩
  | succ N ih =>
    obtain ⟨e2, le, gt⟩ := ih
    obtain ⟨-, ahead⟩ := runClocks_pos_inv eps p h1 N
    rw [runClocks_succ]
    set st := runClocks realT eps p N
    by_cases hv : st.eons ≤ N
    · -- visited in epoch `N`: `N - 1 < eons ≤ N` (`ahead`, `hv`); afterwards
      -- `eonns' ≤ N < eonns' + p` (`negClockStep_bounds`) and `eons' = eons + eps`
      rw [clocksStep_due hv]
      have hle : st.eonns ≤ N := le.trans hv
      obtain ⟨b1, b2⟩ := negClockStep_bounds p hp (st.eonns, st.drawn) N hle
      refine ⟨?_, ?_, ?_⟩ <;> dsimp only
      · rw [negClockStep_real p _ N (div_nonneg (sub_nonneg.2 hle) hp.le), Nat.cast_add, e2]; ring
      · -- `eonns' ≤ N < eons + 1 ≤ eons + eps`
        exact b1.trans ((sub_lt_iff_lt_add.1 ahead).le.trans (add_le_add_right h1 _))
      · -- `eons ≤ N < eonns' + p`
        rw [add_right_comm]
        exact add_lt_add_left (hv.trans_lt b2) eps
    · rw [clocksStep_not_due hv]
      exact ⟨e2, le, gt⟩

/-- the joint invariant of the two clocks after `N` epochs (`rate = negative_sample_rate ≥ 1`,
    `epns = eps / rate`, `eps ≥ 1`). -/
theorem clocks_inv (eps rate : ℝ) (h1 : 1 ≤ eps) (hr : 1 ≤ rate) (N : ℕ) :
    let r := runClocks realT eps (eps / rate) N
    r.eons = ((r.visits : ℝ) + 1) * eps ∧ (N : ℝ) - 1 < r.eons
      ∧ r.eonns = ((r.drawn : ℝ) + 1) * (eps / rate)
      ∧ r.eonns ≤ r.eons
      ∧ rate * r.visits - 2 < r.drawn ∧ (r.drawn : ℝ) + 1 ≤ rate * (r.visits + 1) := by
  have hr0 : 0 < rate := one_pos.trans_le hr
  have he0 : 0 < eps := one_pos.trans_le h1
  have hp : 0 < eps / rate := div_pos he0 hr0
  obtain ⟨e1, ahead⟩ := runClocks_pos_inv eps (eps / rate) h1 N
  obtain ⟨e2, le, gt⟩ := runClocks_inv eps (eps / rate) h1 hp (div_le_self he0.le hr) N
  -- in units of `p = eps / rate` the two trailing bounds are the two counter bounds
  have he : eps = rate * (eps / rate) := (mul_div_cancel₀ eps hr0.ne').symm
  generalize eps / rate = p at *
  subst he
  set r := runClocks realT (rate * p) p N
  refine ⟨e1, ahead, e2, le, ?_, ?_⟩ <;> rw [e1, e2] at le gt
  · exact lt_of_mul_lt_mul_right (a := p) (by linarith only [gt]) hp.le
  · exact le_of_mul_le_mul_right (a := p) (le.trans_eq (by ring)) hp

/-- a visit in epoch `n` leaves the negative clock in `(n - p, n]`: nothing is owed, and the
    cumulative number of draws is `⌊n / p⌋ - 1` (the clock starts at `p`, not at `0`). -/
theorem runClocks_visit (eps p : ℝ) (h1 : 1 ≤ eps) (hp : 0 < p) (hpe : p ≤ eps) (n : ℕ)
    (hv : (runClocks realT eps p n).eons ≤ n) :
    let r := runClocks realT eps p (n + 1)
    r.eonns ≤ n ∧ (n : ℝ) < r.eonns + p ∧ r.drawn + 1 = ⌊(n : ℝ) / p⌋₊ := by
  obtain ⟨-, le, -⟩ := runClocks_inv eps p h1 hp hpe n
  obtain ⟨e2, -, -⟩ := runClocks_inv eps p h1 hp hpe (n + 1)
  intro r
  -- the negative clock of `r` is the one `negClockStep` leaves in epoch `n`
  have b : r.eonns ≤ n ∧ (n : ℝ) < r.eonns + p := by
    rw [show r.eonns = _ from
      congrArg Clocks.eonns ((runClocks_succ realT eps p n).trans (clocksStep_due hv))]
    exact negClockStep_bounds p hp (_, (runClocks realT eps p n).drawn) n (le.trans hv)
  refine ⟨b.1, b.2, (floor_div_eq hp ?_ ?_).symm⟩
  · rw [Nat.cast_succ]; exact e2 ▸ b.1
  · rw [Nat.cast_succ, add_one_mul]; exact e2 ▸ b.2

/-- **negative-sample clock.**  If the edge is visited in epoch `n` then afterwards the negative
    clock is not ahead of `n`, no negative sample is owed (`n - eonns < epns`), and the cumulative
    number of negative samples drawn for the edge is `⌊n / epns⌋ - 1 = ⌊rate · n / eps⌋ - 1`
    (the clock starts at `epns`, not at `0`, hence the `- 1`). -/
theorem neg_clock_inv (eps rate : ℝ) (h1 : 1 ≤ eps) (hr : 1 ≤ rate) (n : ℕ)
    (hv : (runClocks realT eps (eps / rate) n).eons ≤ n) :
    let r := runClocks realT eps (eps / rate) (n + 1)
    r.eonns ≤ n ∧ (n : ℝ) - r.eonns < eps / rate ∧ r.drawn + 1 = ⌊(n : ℝ) / (eps / rate)⌋₊ := by
  have he : 0 < eps := one_pos.trans_le h1
  obtain ⟨a, b, c⟩ := runClocks_visit eps (eps / rate) h1 (div_pos he (one_pos.trans_le hr))
    (div_le_self he.le hr) n hv
  exact ⟨a, sub_lt_iff_lt_add'.2 b, c⟩
/-- **negatives per positive visit are proportional to `negative_sample_rate`**: at every moment
    of the run `rate · visits - 2 < drawn ≤ rate · (visits + 1) - 1`. -/
theorem negatives_proportional (eps rate : ℝ) (h1 : 1 ≤ eps) (hr : 1 ≤ rate) (N : ℕ) :
    let r := runClocks realT eps (eps / rate) N
    rate * r.visits - 2 < r.drawn ∧ (r.drawn : ℝ) ≤ rate * r.visits + (rate - 1) := by
  obtain ⟨_, _, _, _, i5, i6⟩ := clocks_inv eps rate h1 hr N
  intro r
  rw [← add_sub_assoc, le_sub_iff_add_le, ← mul_add_one]
  exact ⟨i5, i6⟩

theorem neg_clock_le (eps rate : ℝ) (h1 : 1 ≤ eps) (hr : 1 ≤ rate) (N : ℕ) :
    (runClocks realT eps (eps / rate) N).eonns ≤ (runClocks realT eps (eps / rate) N).eons :=
  (clocks_inv eps rate h1 hr N).2.2.2.1

-- non-vacuity: eps = 2, rate = 5: first visit in epoch 2
theorem ex_first_visit : (runClocks realT (2 : ℝ) (2 / 5) 2).eons ≤ ((2 : ℕ) : ℝ) := by
  norm_num [runClocks, List.range_succ, clocksStep]

example : (runClocks realT (2 : ℝ) (2 / 5) 2).eons ≤ ((2 : ℕ) : ℝ) := ex_first_visit

example : (runClocks realT (2 : ℝ) (2 / 5) 3).drawn = 4 := by
  have := (neg_clock_inv 2 5 one_le_two (by norm_num) 2 ex_first_visit).2.2
  have h : ⌊((2 : ℕ) : ℝ) / (2 / 5)⌋₊ = 5 := by norm_num
  rw [h] at this
  exact Nat.succ_injective this

section
variable {α : Type}

def clk (s : State α) : Array α × Array α := (s.eons, s.eonns)

theorem setTail_clk (P : Params α) (s : State α) (k d : Nat) (x : α) :
    clk (setTail P s k d x) = clk s := by
  unfold setTail; split_ifs <;> rfl

theorem blind_clk (P : Params α) (j k : Nat) : Blind P j k (clk (α := α)) :=
  ⟨fun _ _ _ => rfl, fun _ t d x => setTail_clk P t k d x, fun _ _ => rfl⟩

end

section StepClocks
variable {α : Type} [Add α] [Sub α] [Mul α] [Div α] [LE α] [DecidableLE α] [NatCast α] [Inhabited α]
  (T : Transc α) (eps epns : Array α) (n : Nat) {att neg : State α → State α}

/-- the two clock lines of the loop body on the clock arrays: the test, and for a due edge
    `eons[i] += eps[i]` and `eonns[i] += int((n - eonns[i]) / epns[i]) * epns[i]`. -/
def clkStep (s : State α) (i : Nat) : Array α × Array α :=
  if s.eons[i]! ≤ (n : α) then
    (s.eons.set! i (s.eons[i]! + eps[i]!),
     s.eonns.set! i
      (s.eonns[i]! + T.ofInt (T.trunc (((n : α) - s.eonns[i]!) / epns[i]!)) * epns[i]!))
  else clk s

/-- nothing else in the step touches the clock arrays. -/
theorem sampledStep_clk (hatt : ∀ t, clk (att t) = clk t) (hneg : ∀ t, clk (neg t) = clk t)
    (s : State α) (i : Nat) :
    clk (sampledStep T eps epns n att neg s i)
      = clkStep T eps epns n s i := by
  have hC : ∀ l t, clk (List.foldl (fun s (_ : Nat) => neg s) t l) = clk t :=
    fun l t => foldl_proj_mem clk _ l (fun t _ _ => hneg t) t
  simp only [clk, Prod.mk.injEq] at hatt hC
  unfold sampledStep negPhase bumpEons bumpEonns clkStep
  split_ifs
  · simp only [clk, (hC _ _).1, (hC _ _).2, (hatt s).1, (hatt s).2]
  · rfl

/-- clock `i` of the two arrays, and their sizes (kept to know that `i` stays in bounds). -/
def clkAt (i : Nat) (a : Array α × Array α) : (α × α) × Nat × Nat :=
  ((a.1[i]!, a.2[i]!), a.1.size, a.2.size)

theorem clkAt_clkStep_ne (s : State α) {x i : Nat} (hx : x ≠ i) :
    clkAt i (clkStep T eps epns n s x) = clkAt i (clk s) := by
  unfold clkStep
  split_ifs
  · simp only [clkAt, clk, Array.getElem!_set!_ne _ _ _ _ hx, Array.size_set!]
  · rfl

/-- on its own clock the step is `clocksStep` (whose counters the state does not hold). -/
theorem clkAt_clkStep_self (s : State α) (c : Clocks α) {i S₁ S₂ : Nat}
    (hs : clkAt i (clk s) = ((c.eons, c.eonns), S₁, S₂)) (h1 : i < S₁) (h2 : i < S₂) :
    clkAt i (clkStep T eps epns n s i)
      = (((clocksStep T eps[i]! epns[i]! c n).eons, (clocksStep T eps[i]! epns[i]! c n).eonns),
          S₁, S₂) := by
  obtain ⟨e, ne, v, d⟩ := c
  obtain ⟨⟨rfl, rfl⟩, rfl, rfl⟩ :
      (s.eons[i]! = e ∧ s.eonns[i]! = ne) ∧ s.eons.size = S₁ ∧ s.eonns.size = S₂ := by
    simpa only [clkAt, clk, Prod.mk.injEq] using hs
  unfold clkStep clocksStep
  split_ifs
  · simp only [clkAt, Array.getElem!_set!_self _ _ _ h1, Array.getElem!_set!_self _ _ _ h2,
      Array.size_set!]
    rfl
  · rfl

/-- clock `i` of any loop whose steps run the two clock lines, started like
    `optimize_layout_euclidean` with `eons = eps` and `eonns = epns`, is `runClocks`. -/
theorem loops_clock (step : Nat → State α → State α → Nat → State α)
    (h : ∀ n t0 t i, clk (step n t0 t i) = clkStep T eps epns n t i)
    (N : Nat) (s : State α) (i : Nat) (hi : i < eps.size) (h1 : i < s.eons.size)
    (h2 : i < s.eonns.size) (he : s.eons[i]! = eps[i]!) (hn : s.eonns[i]! = epns[i]!) :
    let s' := (List.range N).foldl (fun s n => (List.range eps.size).foldl (step n s) s) s
    s'.eons[i]! = (runClocks T eps[i]! epns[i]! N).eons
      ∧ s'.eonns[i]! = (runClocks T eps[i]! epns[i]! N).eonns := by
  -- the state's clock `i` and the isolated clocks advance together, epoch by epoch
  have key : clkAt i (clk ((List.range N).foldl _ s)) = (((runClocks T eps[i]! epns[i]! N).eons,
      (runClocks T eps[i]! epns[i]! N).eonns), s.eons.size, s.eonns.size) :=
    List.foldl_rel (r := fun (t : State α) (c : Clocks α) =>
        clkAt i (clk t) = ((c.eons, c.eonns), s.eons.size, s.eonns.size))
      (by rw [← he, ← hn]; rfl) fun n _ t c hr => by
        -- within the epoch only step `i` moves clock `i`, and it moves it by `clocksStep`
        obtain ⟨u, hu, e⟩ := foldl_range_single (fun t => clkAt i (clk t)) (step n t) hi
          (fun u x hx => by rw [h, clkAt_clkStep_ne T eps epns n u hx]) t
        rw [e, h]
        exact clkAt_clkStep_self T eps epns n u c (hu.trans hr) h1 h2
  exact Prod.mk.inj (congrArg Prod.fst key)

end StepClocks

section ModelClocks
variable {α : Type} [Add α] [Sub α] [Mul α] [Div α] [Neg α] [LT α] [LE α]
  [DecidableLT α] [DecidableLE α] [OfNat α 0] [OfNat α 1] [NatCast α] [Inhabited α]

section
variable (T : Transc α) (eps epns : Array α) (n : Nat)

theorem edgeStep_clk (rnd : α → α) (P : Params α) (hd tl : Array Nat) (alpha : α)
    (cor : Option (Nat → α → α)) (s : State α) (i : Nat) :
    clk (edgeStep T rnd P hd tl eps epns alpha n cor s i)
      = clkStep T eps epns n s i := by
  rw [edgeStep_eq_sampled]
  have h := blind_clk P hd[i]! tl[i]!
  exact sampledStep_clk T eps epns n (fun u => h.attractMove rnd _ _ _ u) (h.negSample T rnd _) s i

end

/-- **the whole run**: started, as `optimize_layout_euclidean` does, with `eons = eps` and
    `eonns = epns`, clock `i` of `runEpochs` is `runClocks` — so `clock_inv`, `visits_proportional`,
    `neg_clock_inv`, `negatives_proportional` are statements about the optimiser's state. -/
theorem run_clock (T : Transc α) (rnd : α → α) (P : Params α) (hd tl : Array Nat)
    (eps epns : Array α) (alpha0 : α) (N : Nat) (s : State α)
    (i : Nat) (hi : i < eps.size) (h1 : i < s.eons.size) (h2 : i < s.eonns.size)
    (he : s.eons[i]! = eps[i]!) (hn : s.eonns[i]! = epns[i]!) :
    (runEpochs T rnd P hd tl eps epns alpha0 N s).eons[i]! = (runClocks T eps[i]! epns[i]! N).eons
    ∧ (runEpochs T rnd P hd tl eps epns alpha0 N s).eonns[i]!
        = (runClocks T eps[i]! epns[i]! N).eonns :=
  loops_clock T eps epns (fun n _ => edgeStep T rnd P hd tl eps epns (alphaAt alpha0 N n) n none)
    (fun n _ t x => edgeStep_clk T eps epns n rnd P hd tl _ none t x) N s i hi h1 h2 he hn

theorem run_clock_dens (T : Transc α) (rnd : α → α) (P : Params α) (hd tl : Array Nat)
    (eps epns : Array α) (alpha0 : α) (N : Nat) (densmap : Bool) (lambda frac : α)
    (corf : Nat → State α → Nat → α → α) (s : State α)
    (i : Nat) (hi : i < eps.size) (h1 : i < s.eons.size) (h2 : i < s.eonns.size)
    (he : s.eons[i]! = eps[i]!) (hn : s.eonns[i]! = epns[i]!) :
    (runEpochsDens T rnd P hd tl eps epns alpha0 N densmap lambda frac corf s).eons[i]!
        = (runClocks T eps[i]! epns[i]! N).eons
    ∧ (runEpochsDens T rnd P hd tl eps epns alpha0 N densmap lambda frac corf s).eonns[i]!
        = (runClocks T eps[i]! epns[i]! N).eonns :=
  loops_clock T eps epns
    (fun n t0 => edgeStep T rnd P hd tl eps epns (alphaAt alpha0 N n) n
      (if densmapFlag densmap lambda frac n N then some (corf n t0) else none))
    (fun n _ t x => edgeStep_clk T eps epns n rnd P hd tl _ _ t x) N s i hi h1 h2 he hn

/-- the generic kernel runs the same two clocks. -/
theorem gen_run_clock (T : Transc α) (rnd : α → α) (P : Params α) (eps6 : α)
    (metric : Array α → Array α → α × Array α) (hd tl : Array Nat)
    (eps epns : Array α) (alpha0 : α) (N : Nat) (s : State α)
    (i : Nat) (hi : i < eps.size) (h1 : i < s.eons.size) (h2 : i < s.eonns.size)
    (he : s.eons[i]! = eps[i]!) (hn : s.eonns[i]! = epns[i]!) :
    (genRunEpochs T rnd P eps6 metric hd tl eps epns alpha0 N s).eons[i]!
        = (runClocks T eps[i]! epns[i]! N).eons
    ∧ (genRunEpochs T rnd P eps6 metric hd tl eps epns alpha0 N s).eonns[i]!
        = (runClocks T eps[i]! epns[i]! N).eonns :=
  loops_clock T eps epns
    (fun n _ => genEdgeStep T rnd P eps6 metric hd tl eps epns (alphaAt alpha0 N n) n)
    (fun n _ t x =>
      have h := blind_clk P hd[x]! tl[x]!
      sampledStep_clk T eps epns n (h.genAttractMove T rnd eps6 _ metric)
        (h.genNegSample T rnd eps6 _ metric) t x) N s i hi h1 h2 he hn

end ModelClocks

/-- over ℝ, for an edge with period `eps[i] ≥ 1` and `epns[i] = eps[i] / rate`, `rate ≥ 1`:
    the optimiser's own clock entries after `N` epochs, in closed form. -/
theorem run_clock_real (rnd : ℝ → ℝ) (P : Params ℝ) (hd tl : Array Nat)
    (eps epns : Array ℝ) (alpha0 : ℝ) (N : Nat) (s : State ℝ) (rate : ℝ)
    (i : Nat) (hi : i < eps.size) (h1 : i < s.eons.size) (h2 : i < s.eonns.size)
    (he : s.eons[i]! = eps[i]!) (hn : s.eonns[i]! = epns[i]!)
    (hr : 1 ≤ rate) (hp : 1 ≤ eps[i]!) (hq : epns[i]! = eps[i]! / rate) :
    let s' := runEpochs realT rnd P hd tl eps epns alpha0 N s
    let k := runClocks realT eps[i]! (eps[i]! / rate) N
    s'.eons[i]! = ((k.visits : ℝ) + 1) * eps[i]!
      ∧ s'.eonns[i]! = ((k.drawn : ℝ) + 1) * (eps[i]! / rate)
      ∧ s'.eonns[i]! ≤ s'.eons[i]! ∧ (N : ℝ) - 1 < s'.eons[i]!
      ∧ rate * k.visits - 2 < k.drawn ∧ (k.drawn : ℝ) ≤ rate * k.visits + (rate - 1) := by
  intro s' k
  obtain ⟨r1, r2⟩ := run_clock realT rnd P hd tl eps epns alpha0 N s i hi h1 h2 he hn
  obtain ⟨i1, i2, i3, i4, -, -⟩ := clocks_inv eps[i]! rate hp hr N
  obtain ⟨n1, n2⟩ := negatives_proportional eps[i]! rate hp hr N
  rw [hq] at r1 r2
  change s'.eons[i]! = k.eons at r1
  change s'.eonns[i]! = k.eonns at r2
  rw [r1, r2]
  exact ⟨i1, i3, i4, i2, n1, n2⟩

end C07
end Umap
