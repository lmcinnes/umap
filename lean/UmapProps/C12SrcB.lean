/-
  C12SrcB — the machine-generated binary metrics of `Generated/DistSrc.lean` (namespace `Umap.Src`,
  translated from the source text of umap/distances.py) equal the hand-written model of
  `UmapModel/Metrics.lean`, which defines them through the natural-number support counts
  `Metrics.counts x y`.  The source accumulates the counts in floats; over an ordered field the
  accumulators are the casts of the natural counts, and `num == 0.0` is `count = 0` (characteristic 0).
  `Src.sign = signPM` holds for the fully generic scalar.
-/
import UmapModel.Metrics
import Generated.DistSrc
import UmapProofs.SrcLemmas
import UmapProofs.MetricsLemmas
import UmapProps.C12SrcA

set_option linter.unusedSectionVars false -- the `_src` statements

namespace Umap
namespace C12SrcB
open SrcLemmas Metrics

section generic
variable {α : Type} [Add α] [Sub α] [Mul α] [Div α] [Neg α] [LT α] [LE α]
  [DecidableLT α] [DecidableLE α] [OfNat α 0] [OfNat α 1] [NatCast α]

/-- `umap.distances.sign` is the model's `signPM` (any scalar type, including `Float`). -/
theorem sign_src (a : α) : Src.sign a = signPM a := by
  unfold Src.sign signPM
  rfl

end generic

section field
variable {K : Type} [Field K] [LinearOrder K]

/-- number of positions whose support pattern `(x[i] != 0, y[i] != 0)` satisfies `g` -/
def cnt (g : Bool → Bool → Bool) (l : List (K × K)) : Nat :=
  l.countP (fun p => g (nzB p.1) (nzB p.2))

/-- a float accumulator `acc += bool` is the cast of the count -/
theorem foldl_b2s {γ : Type} (G : γ → Bool) (l : List γ) :
    l.foldl (fun (st : K) p => st + Src.b2s (G p)) 0 = (l.countP G : K) := by
  have hb : (fun (st : K) p => st + Src.b2s (G p)) = fun st p => if G p then st + 1 else st := by
    funext st p
    cases G p
    · simp only [Src.b2s, Bool.false_eq_true, if_false, add_zero]
    · simp only [Src.b2s, if_true]
  rw [hb, ← Nat.cast_zero, C12SrcA.foldl_counter fun n => Nat.cast_succ n, Nat.zero_add]

theorem cnt_loop (x y : List K) (h : x.length = y.length) (g : Bool → Bool → Bool) :
    (List.range x.length).foldl (fun (st : K) i =>
        st + Src.b2s (g (!(eqV (x.getD i 0) 0)) (!(eqV (y.getD i 0) 0)))) 0
      = (cnt g (x.zip y) : K) := by
  rw [foldl_b2s, cnt, zip_eq_map_range x y 0 0 rfl h.symm, List.countP_map]
  rfl

theorem cnt_loop₂ (x y : List K) (h : x.length = y.length) (g₁ g₂ : Bool → Bool → Bool) :
    (List.range x.length).foldl (fun (st : K × K) i =>
        (st.1 + Src.b2s (g₁ (!(eqV (x.getD i 0) 0)) (!(eqV (y.getD i 0) 0))),
         st.2 + Src.b2s (g₂ (!(eqV (x.getD i 0) 0)) (!(eqV (y.getD i 0) 0))))) (0, 0)
      = ((cnt g₁ (x.zip y) : K), (cnt g₂ (x.zip y) : K)) := by
  rw [← cnt_loop x y h g₁, ← cnt_loop x y h g₂, ← foldl_pair]

theorem cnt_loop₃ (x y : List K) (h : x.length = y.length) (g₁ g₂ g₃ : Bool → Bool → Bool) :
    (List.range x.length).foldl (fun (st : K × K × K) i =>
        (st.1 + Src.b2s (g₁ (!(eqV (x.getD i 0) 0)) (!(eqV (y.getD i 0) 0))),
         st.2.1 + Src.b2s (g₂ (!(eqV (x.getD i 0) 0)) (!(eqV (y.getD i 0) 0))),
         st.2.2 + Src.b2s (g₃ (!(eqV (x.getD i 0) 0)) (!(eqV (y.getD i 0) 0))))) (0, 0, 0)
      = ((cnt g₁ (x.zip y) : K), (cnt g₂ (x.zip y) : K), (cnt g₃ (x.zip y) : K)) := by
  rw [← cnt_loop x y h g₁, ← cnt_loop x y h g₂, ← cnt_loop x y h g₃, ← foldl_triple]

abbrev gTT : Bool → Bool → Bool := fun a b => a && b
abbrev gTF : Bool → Bool → Bool := fun a b => a && !b
abbrev gFT : Bool → Bool → Bool := fun a b => !a && b

theorem counts_eq (x y : List K) :
    counts x y = { n := x.length, tt := cnt gTT (x.zip y), tf := cnt gTF (x.zip y),
                   ft := cnt gFT (x.zip y) } :=
  counts_eq_countP x y

/-- counts add up whenever the patterns do, pointwise (a fact about the four pairs of booleans) -/
theorem cnt_add (g g₁ g₂ : Bool → Bool → Bool)
    (hg : ∀ a b, (if g a b then 1 else 0) = (if g₁ a b then 1 else 0) + if g₂ a b then 1 else 0)
    (l : List (K × K)) : cnt g l = cnt g₁ l + cnt g₂ l := by
  induction l with
  | nil => rfl
  | cons p l ih =>
    simp only [cnt, List.countP_cons] at ih ⊢
    rw [ih, hg, Nat.add_add_add_comm]

theorem cnt_xor (l : List (K × K)) : cnt xor l = cnt gTF l + cnt gFT l :=
  cnt_add _ _ _ (by decide) l

theorem cnt_or (l : List (K × K)) :
    cnt (fun a b => a || b) l = cnt gTT l + cnt gTF l + cnt gFT l := by
  rw [cnt_add _ gTT xor (by decide), cnt_xor, Nat.add_assoc]

theorem cnt_le_length (g : Bool → Bool → Bool) (x y : List K) : cnt g (x.zip y) ≤ x.length :=
  List.countP_le_length.trans (List.length_zip ▸ Nat.min_le_left _ _)

/-- the hypothesis `tt + tf + ft ≤ n` of `C12.binary_unit_range`, for `counts x y` (`counts_eq`) -/
theorem cnt_le (x y : List K) :
    cnt gTT (x.zip y) + cnt gTF (x.zip y) + cnt gFT (x.zip y) ≤ x.length :=
  (cnt_or _).ge.trans (cnt_le_length _ x y)

/-- the source's `n - tt - tf - ft` in floats is the model's truncating `ℕ` difference -/
theorem cast_sub_sub_sub {a b c n : Nat} (h : a + b + c ≤ n) :
    ((n - a - b - c : Nat) : K) = n - a - b - c := by
  rw [Nat.sub_sub, Nat.sub_sub, ← Nat.add_assoc, Nat.cast_sub h, Nat.cast_add, Nat.cast_add,
    sub_add_eq_sub_sub, sub_add_eq_sub_sub]

/-- `np.sum(x != 0)`: the support of `x` is met where both or only `x` are non-zero -/
theorem countP_fst (x y : List K) (h : x.length = y.length) :
    x.countP (fun a => !(eqV a 0)) = cnt gTT (x.zip y) + cnt gTF (x.zip y) := by
  conv_lhs => rw [← List.map_fst_zip (l₂ := y) h.le, List.countP_map]
  exact cnt_add (fun a _ => a) _ _ (by decide) _

theorem countP_snd (x y : List K) (h : x.length = y.length) :
    y.countP (fun a => !(eqV a 0)) = cnt gTT (x.zip y) + cnt gFT (x.zip y) := by
  conv_lhs => rw [← List.map_snd_zip (l₁ := x) h.ge, List.countP_map]
  exact cnt_add (fun _ b => b) _ _ (by decide) _

variable [IsStrictOrderedRing K]

/-- the source's `num == 0.0` on a float counter is `count = 0` (characteristic 0) -/
theorem eqV_natCast_zero (n : Nat) : (eqV ((n : Nat) : K) 0 = true) = (n = 0) :=
  propext ((eqV_iff _ _).trans Nat.cast_eq_zero)

theorem matching_src (x y : List K) (h : x.length = y.length) :
    Src.matching x y = matchingC (counts x y) := by
  simp only [Src.matching, cnt_loop x y h xor, counts_eq, matchingC, rat, Counts.neq, cnt_xor]

theorem rogersTanimoto_src (x y : List K) (h : x.length = y.length) :
    Src.rogersTanimoto x y = rogersTanimotoC (counts x y) := by
  simp only [Src.rogersTanimoto, cnt_loop x y h xor, counts_eq, rogersTanimotoC, rat, Counts.neq, cnt_xor,
    Nat.cast_mul, Nat.cast_add]

theorem sokalMichener_src (x y : List K) (h : x.length = y.length) :
    Src.sokalMichener x y = sokalMichenerC (counts x y) := by
  simp only [Src.sokalMichener, cnt_loop x y h xor, counts_eq, sokalMichenerC, rat, Counts.neq, cnt_xor,
    Nat.cast_mul, Nat.cast_add]

theorem jaccard_src (x y : List K) (h : x.length = y.length) :
    Src.jaccard x y = jaccardC (counts x y) := by
  simp only [Src.jaccard, cnt_loop₂ x y h (fun a b => a || b) gTT, counts_eq, jaccardC, rat, cnt_or,
    eqV_natCast_zero]
  refine ite_congr rfl (fun _ => rfl) (fun hq => ?_)
  -- closed by normalisation in the field, so that algebraically equal forms of the ratio
  -- (`1 - eq / nnz`, `(nnz - eq) / nnz`) are all accepted
  have hne : ((cnt gTT (x.zip y) + cnt gTF (x.zip y) + cnt gFT (x.zip y) : Nat) : K) ≠ 0 := by
    exact_mod_cast hq
  rw [Nat.cast_sub ((Nat.le_add_right _ _).trans (Nat.le_add_right _ _))] <;>
  first
    | rfl
    | (push_cast at hne ⊢; field_simp)
    | (push_cast at hne ⊢; field_simp; ring)

theorem dice_src (x y : List K) (h : x.length = y.length) :
    Src.dice x y = diceC (counts x y) := by
  simp only [Src.dice, cnt_loop₂ x y h gTT xor, counts_eq, diceC, rat, Counts.neq, cnt_xor, eqV_natCast_zero]
  -- a pass of its own: the guard `↑(tf + ft) == 0` has to be read before the cast is pushed into the sum
  simp only [Nat.cast_add, Nat.cast_mul]

theorem kulsinski_src (x y : List K) (h : x.length = y.length) :
    Src.kulsinski x y = kulsinskiC (counts x y) := by
  simp only [Src.kulsinski, cnt_loop₂ x y h gTT xor, counts_eq, kulsinskiC, rat, Counts.neq, cnt_xor,
    eqV_natCast_zero]
  simp only [Nat.cast_sub ((cnt_le_length gTT x y).trans (Nat.le_add_left _ _)), Nat.cast_add,
    sub_add_eq_add_sub]

theorem sokalSneath_src (x y : List K) (h : x.length = y.length) :
    Src.sokalSneath x y = sokalSneathC (counts x y) := by
  simp only [Src.sokalSneath, cnt_loop₂ x y h gTT xor, counts_eq, sokalSneathC, Metrics.two, Counts.neq,
    cnt_xor, eqV_natCast_zero]

theorem russellrao_src (x y : List K) (h : x.length = y.length) :
    Src.russellrao x y = russellRaoC (counts x y) := by
  simp only [Src.russellrao, cnt_loop x y h gTT, counts_eq, countP_fst x y h, countP_snd x y h,
    russellRaoC, rat, Nat.cast_sub (cnt_le_length gTT x y)]
  -- `tt = tt + tf ∧ tt = tt + ft` is the model's `tf = 0 ∧ ft = 0`
  refine ite_congr (propext ?_) (fun _ => rfl) (fun _ => rfl)
  rw [Bool.and_eq_true, eqV_iff, eqV_iff, Nat.cast_inj, Nat.cast_inj]
  exact and_congr (eq_comm.trans Nat.add_eq_left) (eq_comm.trans Nat.add_eq_left)

theorem yule_src (x y : List K) (h : x.length = y.length) :
    Src.yule x y = yuleC (counts x y) := by
  simp only [Src.yule, cnt_loop₃ x y h gTT gTF gFT, counts_eq, yuleC, rat, Bool.or_eq_true, eqV_natCast_zero,
    Nat.cast_add, Nat.cast_mul, cast_sub_sub_sub (cnt_le x y)]

end field
end C12SrcB
end Umap
