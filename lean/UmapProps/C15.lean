/-
  C15 — spectral initialisation: the algebra behind `_spectral_layout` / `multi_component_layout`.

  Model: `Umap.Spectral` (`lapEntry`, `sqrtDeg`, `laplacian`, `argsort`, `selectOrder`, `rankInLabel`,
  `assemble`).
  The eigen-solver (ARPACK / LOBPCG) is an external call and enters as a contract.

  Part 1 (matrices over ℝ): for a symmetric non-negative graph `A` with positive degrees, the
  normalised Laplacian `L = I - D A D` (defined entrywise THROUGH `Spectral.lapEntry`) is symmetric,
  has `sqrt_deg` as eigenvector for eigenvalue `0`, is positive semidefinite (explicit quadratic
  form), and eigenvectors for distinct eigenvalues of a symmetric matrix are orthogonal — so `0` is
  the smallest eigenvalue and every other eigenvector is orthogonal to the trivial one: dropping
  the first of the sorted eigenvectors is right.

  Part 2 (lists): `argsort` is a sorted permutation, `selectOrder` drops the smallest and keeps
  `dim` columns, each of them an eigenvector under the solver contract.

  Part 3 (lists): `assemble` writes every result row exactly once from a genuine block row.
-/
import Mathlib.LinearAlgebra.Matrix.DotProduct
import UmapModel.Spectral
import UmapProofs.GraphLemmas
import Mathlib.LinearAlgebra.Matrix.Symmetric
import UmapProofs.InsertSort
import UmapProofs.RealT

namespace Umap
namespace C15
open Matrix

/-! ## Part 1 — the normalised Laplacian -/

section Laplacian
variable {n : Nat}

/-- `graph.sum(axis=0)`: column sums. -/
noncomputable def deg (A : Matrix (Fin n) (Fin n) ℝ) (j : Fin n) : ℝ := ∑ i, A i j

/-- `sqrt_deg`. -/
noncomputable def sd (A : Matrix (Fin n) (Fin n) ℝ) (j : Fin n) : ℝ := Real.sqrt (deg A j)

/-- `L = I - D * graph * D`, entry by entry through the model's `Spectral.lapEntry`. -/
noncomputable def L (A : Matrix (Fin n) (Fin n) ℝ) : Matrix (Fin n) (Fin n) ℝ :=
  Matrix.of fun i j => Spectral.lapEntry (sd A i) (sd A j) (A i j) (decide (i = j))

theorem L_apply (A : Matrix (Fin n) (Fin n) ℝ) (i j : Fin n) :
    L A i j = (if i = j then 1 else 0) - (1 / sd A i) * A i j * (1 / sd A j) := by
  simp only [L, Spectral.lapEntry, Matrix.of_apply, decide_eq_true_eq]

theorem sd_pos {A : Matrix (Fin n) (Fin n) ℝ} (hdeg : ∀ j, 0 < deg A j) (j : Fin n) :
    0 < sd A j := Real.sqrt_pos.2 (hdeg j)

theorem sd_sq {A : Matrix (Fin n) (Fin n) ℝ} (hdeg : ∀ j, 0 < deg A j) (j : Fin n) :
    sd A j * sd A j = deg A j := Real.mul_self_sqrt (hdeg j).le

theorem deg_pos_of_entry {A : Matrix (Fin n) (Fin n) ℝ} (hnn : ∀ i j, 0 ≤ A i j) {i j : Fin n}
    (h : 0 < A i j) : 0 < deg A j :=
  Finset.sum_pos' (fun i _ => hnn i j) ⟨i, Finset.mem_univ i, h⟩

theorem rowsum_eq_deg {A : Matrix (Fin n) (Fin n) ℝ} (hA : A.IsSymm) (i : Fin n) :
    ∑ j, A i j = deg A i := by
  unfold deg
  exact Finset.sum_congr rfl fun j _ => (hA.apply i j).symm

theorem laplacian_symm {A : Matrix (Fin n) (Fin n) ℝ} (hA : A.IsSymm) (i j : Fin n) :
    L A i j = L A j i := by
  rw [L_apply, L_apply, hA.apply i j]
  exact congrArg₂ _ (if_congr eq_comm rfl rfl) (by ring)

theorem laplacian_isSymm {A : Matrix (Fin n) (Fin n) ℝ} (hA : A.IsSymm) : (L A).IsSymm :=
  Matrix.IsSymm.ext fun i j => laplacian_symm hA j i

/-- `L x = x - D A D x`, row by row. -/
theorem L_mulVec_apply (A : Matrix (Fin n) (Fin n) ℝ) (x : Fin n → ℝ) (i : Fin n) :
    (L A *ᵥ x) i = x i - (1 / sd A i) * ∑ j, A i j * (x j / sd A j) := by
  simp only [mulVec, dotProduct, L_apply, sub_mul, ite_mul, one_mul, zero_mul,
    Finset.sum_sub_distrib, Finset.sum_ite_eq, Finset.mem_univ, if_true, Finset.mul_sum]
  exact congrArg _ (Finset.sum_congr rfl fun j _ => by ring)

/-- `x` is an eigenvector of `L` for the eigenvalue `1` as soon as `A D x = 0`. -/
theorem L_mulVec_eq_self {A : Matrix (Fin n) (Fin n) ℝ} {x : Fin n → ℝ}
    (h : ∀ i, ∑ j, A i j * (x j / sd A j) = 0) : L A *ᵥ x = x := by
  funext i
  rw [L_mulVec_apply, h, mul_zero, sub_zero]

theorem trivial_eigvec {A : Matrix (Fin n) (Fin n) ℝ} (hA : A.IsSymm)
    (hdeg : ∀ j, 0 < deg A j) : L A *ᵥ sd A = 0 := by
  funext i
  have h : ∀ j, A i j * (sd A j / sd A j) = A i j := fun j => by
    rw [div_self (sd_pos hdeg j).ne', mul_one]
  simp only [L_mulVec_apply, h, rowsum_eq_deg hA, ← sd_sq hdeg i, Pi.zero_apply]
  rw [one_div, inv_mul_cancel_left₀ (sd_pos hdeg i).ne', sub_self]

/-- the graph-Laplacian identity behind the quadratic form (no normalisation involved). -/
theorem sum_sq_diff {A : Matrix (Fin n) (Fin n) ℝ} (hA : A.IsSymm) (y : Fin n → ℝ) :
    ∑ i, ∑ j, A i j * (y i - y j) ^ 2
      = 2 * (∑ i, deg A i * y i ^ 2 - ∑ i, ∑ j, A i j * (y i * y j)) := by
  have e : ∀ i, ∑ j, A i j * (y i - y j) ^ 2
      = deg A i * y i ^ 2 + ∑ j, A i j * y j ^ 2 - 2 * ∑ j, A i j * (y i * y j) := by
    intro i
    rw [← rowsum_eq_deg hA, Finset.sum_mul, Finset.mul_sum, ← Finset.sum_add_distrib,
      ← Finset.sum_sub_distrib]
    exact Finset.sum_congr rfl fun j _ => by ring
  have a2 : ∑ i, ∑ j, A i j * y j ^ 2 = ∑ i, deg A i * y i ^ 2 := by
    rw [Finset.sum_comm]
    exact Finset.sum_congr rfl fun j _ => (Finset.sum_mul ..).symm
  rw [Finset.sum_congr rfl fun i _ => e i, Finset.sum_sub_distrib, Finset.sum_add_distrib,
    ← Finset.mul_sum, a2, ← two_mul, ← mul_sub]

theorem laplacian_quadratic_form {A : Matrix (Fin n) (Fin n) ℝ} (hA : A.IsSymm)
    (hdeg : ∀ j, 0 < deg A j) (x : Fin n → ℝ) :
    x ⬝ᵥ (L A *ᵥ x)
      = (1 / 2) * ∑ i, ∑ j, A i j * (x i / sd A i - x j / sd A j) ^ 2 := by
  -- with `y = D x` both sides are `∑ deg y² - ∑∑ A y y`
  have hx : ∀ i, x i * (L A *ᵥ x) i = deg A i * (x i / sd A i) ^ 2
      - ∑ j, A i j * (x i / sd A i * (x j / sd A j)) := by
    intro i
    have e : ∑ j, A i j * (x i / sd A i * (x j / sd A j))
        = x i / sd A i * ∑ j, A i j * (x j / sd A j) := by
      rw [Finset.mul_sum]; exact Finset.sum_congr rfl fun j _ => mul_left_comm _ _ _
    have h2 : deg A i * (x i / sd A i) ^ 2 = x i ^ 2 := by
      rw [← sd_sq hdeg i, ← sq, ← mul_pow, mul_div_cancel₀ _ (sd_pos hdeg i).ne']
    rw [L_mulVec_apply, e, h2]; ring
  rw [sum_sq_diff hA fun i => x i / sd A i, dotProduct, Finset.sum_congr rfl fun i _ => hx i,
    Finset.sum_sub_distrib, one_div, inv_mul_cancel_left₀ two_ne_zero]

theorem laplacian_psd {A : Matrix (Fin n) (Fin n) ℝ} (hA : A.IsSymm) (hnn : ∀ i j, 0 ≤ A i j)
    (hdeg : ∀ j, 0 < deg A j) (x : Fin n → ℝ) : 0 ≤ x ⬝ᵥ (L A *ᵥ x) := by
  rw [laplacian_quadratic_form hA hdeg]
  refine mul_nonneg one_half_pos.le ?_
  exact Finset.sum_nonneg fun i _ => Finset.sum_nonneg fun j _ =>
    mul_nonneg (hnn i j) (sq_nonneg _)

/-- hence every eigenvalue of `L` is non-negative: `0` (eigenvector `sqrt_deg`) is the smallest. -/
theorem eigenvalue_nonneg {A : Matrix (Fin n) (Fin n) ℝ} (hA : A.IsSymm)
    (hnn : ∀ i j, 0 ≤ A i j) (hdeg : ∀ j, 0 < deg A j) {v : Fin n → ℝ} {a : ℝ}
    (hv : v ≠ 0) (h : L A *ᵥ v = a • v) : 0 ≤ a := by
  have h1 := laplacian_psd hA hnn hdeg v
  rw [h, dotProduct_smul, smul_eq_mul] at h1
  have h2 : 0 < v ⬝ᵥ v :=
    (Finset.sum_nonneg fun i _ => mul_self_nonneg (v i)).lt_of_ne'
      (mt dotProduct_self_eq_zero.1 hv)
  exact nonneg_of_mul_nonneg_left h1 h2

theorem eigvec_orthogonal {M : Matrix (Fin n) (Fin n) ℝ} (hM : M.IsSymm) {u v : Fin n → ℝ}
    {a b : ℝ} (hu : M *ᵥ u = a • u) (hv : M *ᵥ v = b • v) (hab : a ≠ b) : u ⬝ᵥ v = 0 := by
  have h1 : u ⬝ᵥ (M *ᵥ v) = (M *ᵥ u) ⬝ᵥ v := by
    rw [dotProduct_mulVec, ← mulVec_transpose, hM.eq]
  rw [hu, hv, dotProduct_smul, smul_dotProduct, smul_eq_mul, smul_eq_mul] at h1
  by_contra hd
  exact hab (mul_right_cancel₀ hd h1.symm)

theorem nontrivial_orthogonal_to_sd {A : Matrix (Fin n) (Fin n) ℝ} (hA : A.IsSymm)
    (hdeg : ∀ j, 0 < deg A j) {v : Fin n → ℝ} {b : ℝ} (hv : L A *ᵥ v = b • v) (hb : b ≠ 0) :
    v ⬝ᵥ sd A = 0 := by
  have h0 : L A *ᵥ sd A = (0 : ℝ) • sd A := by rw [trivial_eigvec hA hdeg, zero_smul]
  exact eigvec_orthogonal (laplacian_isSymm hA) hv h0 hb

end Laplacian

/-! ### the executable model's `Spectral.laplacian` / `Spectral.sqrtDeg` ARE this matrix -/

section Bridge
variable {n : Nat}

/-- the dense matrix denoted by a COO list (duplicates summed, as scipy does). -/
noncomputable def toMat (n : Nat) (C : Graph.Coo ℝ) : Matrix (Fin n) (Fin n) ℝ :=
  Matrix.of fun i j => Graph.lookup C i.val j.val

theorem colsum_eq (C : Graph.Coo ℝ) (hC : ∀ t ∈ C, t.1 < n) (j : Nat) :
    sumL ((C.filter (fun t => t.2.1 == j)).map (·.2.2))
      = ∑ i : Fin n, Graph.lookup C i.val j := by
  induction C with
  | nil => exact (Finset.sum_eq_zero fun i _ => Graph.lookup_nil _ _).symm
  | cons t C ih =>
    -- only row `t.1` of the dense column sees the triple `t`
    have e : ∑ i : Fin n, (if t.1 = i.val ∧ t.2.1 = j then t.2.2 else 0)
        = if t.2.1 = j then t.2.2 else 0 := by
      rw [Finset.sum_eq_single (⟨t.1, hC t List.mem_cons_self⟩ : Fin n)
        (fun b _ hb => if_neg fun h => hb (Fin.ext h.1.symm))
        (fun h => absurd (Finset.mem_univ _) h)]
      simp
    simp only [Graph.lookup_cons, Finset.sum_add_distrib, e,
      ← ih fun t ht => hC t (List.mem_cons_of_mem _ ht)]
    exact (sumL_filter_map_cons _ _ t C).trans (congrArg (· + _) (if_congr beq_iff_eq rfl rfl))

theorem sqrtDeg_getD (C : Graph.Coo ℝ) (hC : ∀ t ∈ C, t.1 < n) (j : Fin n) :
    (Spectral.sqrtDeg realT C n).getD j.val 1 = sd (toMat n C) j := by
  have hj := j.isLt
  unfold Spectral.sqrtDeg
  simp only [List.getD, List.getElem?_map, List.getElem?_range hj, Option.map_some,
    Option.getD_some]
  rw [colsum_eq C hC]
  rfl

/-- `laplacian` stores `lapEntry` at the positions of `C` and on the diagonal. -/
theorem laplacian_eq (C : Graph.Coo ℝ) (n : Nat) :
    Spectral.laplacian realT C n
      = Graph.tabulate (Graph.positions C ++ (List.range n).map fun i => (i, i)).eraseDups
          fun i j => Spectral.lapEntry ((Spectral.sqrtDeg realT C n).getD i 1)
            ((Spectral.sqrtDeg realT C n).getD j 1) (Graph.lookup C i j) (i == j) := rfl

/--
  For a COO graph `C` with indices `< n`, the sparse matrix built by the executable
  model `Spectral.laplacian` (instantiated at ℝ) denotes exactly the matrix `L (toMat n C)` the
  theorems of this file are about — entry by entry, including the positions it does not store.
-/
theorem laplacian_model_lookup (C : Graph.Coo ℝ) (hC : ∀ t ∈ C, t.1 < n ∧ t.2.1 < n)
    (i j : Fin n) :
    Graph.lookup (Spectral.laplacian realT C n) i.val j.val = L (toMat n C) i j := by
  have hrow : ∀ t ∈ C, t.1 < n := fun t ht => (hC t ht).1
  have hbeq : (i.val == j.val) = decide (i = j) := by
    rw [Bool.eq_iff_iff, beq_iff_eq, decide_eq_true_iff, Fin.val_inj]
  rw [laplacian_eq, Graph.lookup_tabulate (nodup_eraseDups _)]
  split_ifs with hmem
  · simp only [sqrtDeg_getD C hrow, hbeq]
    rfl
  · rw [List.mem_eraseDups, List.mem_append] at hmem
    have hne : i ≠ j := by
      rintro rfl
      exact hmem (Or.inr (List.mem_map.2 ⟨i.val, List.mem_range.2 i.isLt, rfl⟩))
    have hz : toMat n C i j = 0 :=
      not_not.1 fun h => hmem (Or.inl (Graph.lookup_ne_zero_positions C _ _ h))
    rw [L_apply, if_neg hne, hz, mul_zero, zero_mul, sub_zero]

end Bridge

/-! ### non-vacuity: the path graph `0 — 1 — 2` -/

def pathA : Matrix (Fin 3) (Fin 3) ℝ := !![0, 1, 0; 1, 0, 1; 0, 1, 0]

/-- the adjacency matrix of the edges `0 — 1`, `1 — 2`
    (`eta_fin_three` lists the nine entries, each of which holds by `rfl`). -/
theorem pathA_eq : pathA = of fun i j : Fin 3 =>
    if (i.val, j.val) ∈ [(0, 1), (1, 0), (1, 2), (2, 1)] then (1 : ℝ) else 0 := by
  symm; exact (eta_fin_three _).trans rfl

theorem pathA_symm : pathA.IsSymm := (eta_fin_three pathAᵀ).trans rfl

theorem pathA_nonneg : ∀ i j, 0 ≤ pathA i j := by
  intro i j; rw [pathA_eq, of_apply]; split_ifs; exacts [zero_le_one, le_rfl]

/-- every vertex has a neighbour. -/
theorem pathA_deg_pos : ∀ j, 0 < deg pathA j := by
  intro j
  fin_cases j
  · exact deg_pos_of_entry pathA_nonneg (i := 1) zero_lt_one
  · exact deg_pos_of_entry pathA_nonneg (i := 0) zero_lt_one
  · exact deg_pos_of_entry pathA_nonneg (i := 1) zero_lt_one

example : L pathA *ᵥ sd pathA = 0 := trivial_eigvec pathA_symm pathA_deg_pos
example (x : Fin 3 → ℝ) : 0 ≤ x ⬝ᵥ (L pathA *ᵥ x) :=
  laplacian_psd pathA_symm pathA_nonneg pathA_deg_pos x

/-- a non-trivial eigenpair of the path graph's Laplacian: eigenvalue `1`, vector `(1, 0, -1)`. -/
theorem pathA_eigvec : L pathA *ᵥ ![1, 0, -1] = (1 : ℝ) • ![1, 0, -1] := by
  -- vertices `0` and `2` have the same neighbours, hence the same degree and equal columns of
  -- `pathA`; the vector is the difference of their indicators, and the middle entry is `0`
  have hcol : ∀ i, pathA i 0 = pathA i 2 := fun i => by fin_cases i <;> rfl
  have h02 : sd pathA 0 = sd pathA 2 :=
    congrArg Real.sqrt (Finset.sum_congr rfl fun i _ => hcol i)
  rw [one_smul]
  refine L_mulVec_eq_self fun i => ?_
  rw [Fin.sum_univ_three]
  show pathA i 0 * (1 / sd pathA 0) + pathA i 1 * (0 / sd pathA 1)
    + pathA i 2 * (-1 / sd pathA 2) = 0
  rw [h02, hcol]; ring

example : ![1, 0, -1] ⬝ᵥ sd pathA = 0 :=
  nontrivial_orthogonal_to_sd pathA_symm pathA_deg_pos pathA_eigvec one_ne_zero

/-- the path graph as the COO list the model consumes; it denotes `pathA`, so the executable
    `Spectral.laplacian` of it denotes `L pathA`. -/
def pathCoo : Graph.Coo ℝ := [(0, 1, 1), (1, 0, 1), (1, 2, 1), (2, 1, 1)]

theorem toMat_pathCoo : toMat 3 pathCoo = pathA := by
  rw [pathA_eq]
  ext i j
  exact Graph.lookup_tabulate (pos := [(0, 1), (1, 0), (1, 2), (2, 1)]) (by decide) (fun _ _ => 1)
    i.val j.val

example (i j : Fin 3) :
    Graph.lookup (Spectral.laplacian realT pathCoo 3) i.val j.val = L pathA i j := by
  rw [← toMat_pathCoo]
  exact laplacian_model_lookup pathCoo (by decide) i j

/-! ## Part 2 — `argsort` and the selection of the eigenvectors -/

section Argsort
open Spectral
variable {K : Type} [LinearOrder K] [Zero K]

theorem argsort_perm (vals : List K) : (argsort vals).Perm (List.range vals.length) :=
  sortIdx_perm _ _

theorem argsort_length (vals : List K) : (argsort vals).length = vals.length :=
  sortIdx_length _ _

theorem argsort_nodup (vals : List K) : (argsort vals).Nodup := sortIdx_nodup _ _

theorem mem_argsort {vals : List K} {c : Nat} : c ∈ argsort vals ↔ c < vals.length :=
  mem_sortIdx _

theorem argsort_sorted (vals : List K) :
    (argsort vals).Pairwise (fun a b => vals.getD a 0 ≤ vals.getD b 0) :=
  sortIdx_sorted _ _

/-- `order = np.argsort(eigenvalues)[1:k]` has `dim = k - 1` entries. -/
theorem selectOrder_length (vals : List K) (dim : Nat) (h : dim + 1 ≤ vals.length) :
    (selectOrder vals dim).length = dim := by
  unfold selectOrder
  rw [List.length_take, List.length_drop, argsort_length]
  exact Nat.min_eq_left (Nat.le_sub_of_add_le h)

/-- `argsort` is stable: among equal values the smaller index comes first
    (the documented behaviour of a stable `np.argsort`; numpy's default quicksort is not
    guaranteed stable, which only matters for exactly tied eigenvalues). -/
theorem argsort_stable (vals : List K) :
    (argsort vals).Pairwise
      (fun a b => vals.getD a 0 < vals.getD b 0 ∨ (vals.getD a 0 = vals.getD b 0 ∧ a < b)) :=
  sortIdx_stable _ _

/--
  Solver contract: the `k = dim + 1` returned pairs
  `(vals[c], vecs c)` are eigenpairs of `M`.  Then the sorted order is
  `dropped :: selectOrder vals dim ++ rest` where the dropped index `d` carries a smallest
  eigenvalue, and every selected column is one of the returned columns, distinct from the dropped
  one and from each other, an eigenvector of `M`, with eigenvalue `≥` the dropped one.
-/
theorem select_spec {n : Nat} (M : Matrix (Fin n) (Fin n) ℝ) (vals : List ℝ)
    (vecs : Nat → Fin n → ℝ) (dim : Nat) (hk : dim + 1 ≤ vals.length)
    (hsolver : ∀ c, c < vals.length → M *ᵥ vecs c = vals.getD c 0 • vecs c) :
    ∃ d, (argsort vals).head? = some d ∧ d < vals.length ∧
      (∀ c, c < vals.length → vals.getD d 0 ≤ vals.getD c 0) ∧
      d ∉ selectOrder vals dim ∧ (selectOrder vals dim).Nodup ∧
      ∀ c ∈ selectOrder vals dim,
        c < vals.length ∧ M *ᵥ vecs c = vals.getD c 0 • vecs c ∧ vals.getD d 0 ≤ vals.getD c 0 := by
  obtain ⟨d, t, hd, hdlt, hmin⟩ : ∃ d t, argsort vals = d :: t ∧ d < vals.length
      ∧ ∀ c, c < vals.length → vals.getD d 0 ≤ vals.getD c 0 :=
    sortIdx_eq_cons _ ((Nat.succ_pos dim).trans_le hk)
  have hnd := argsort_nodup vals
  rw [hd, List.nodup_cons] at hnd
  -- the selection is a prefix of the tail `t`
  have hsel : selectOrder vals dim = t.take dim := by rw [selectOrder, hd]; rfl
  rw [hsel]
  refine ⟨d, by rw [hd]; rfl, hdlt, hmin,
    fun h => hnd.1 (List.mem_of_mem_take h), hnd.2.sublist (List.take_sublist _ _), ?_⟩
  intro c hc
  have hc' : c < vals.length :=
    mem_argsort.1 (hd ▸ List.mem_cons_of_mem d (List.mem_of_mem_take hc))
  exact ⟨hc', hsolver c hc', hmin c hc'⟩

theorem selected_orthogonal_to_sd {n : Nat} {A : Matrix (Fin n) (Fin n) ℝ} (hA : A.IsSymm)
    (hdeg : ∀ j, 0 < deg A j) (vals : List ℝ) (vecs : Nat → Fin n → ℝ) (dim : Nat)
    (hk : dim + 1 ≤ vals.length)
    (hsolver : ∀ c, c < vals.length → L A *ᵥ vecs c = vals.getD c 0 • vecs c) :
    ∀ c ∈ selectOrder vals dim, vals.getD c 0 ≠ 0 → vecs c ⬝ᵥ sd A = 0 := by
  obtain ⟨d, -, -, -, -, -, h⟩ := select_spec (L A) vals vecs dim hk hsolver
  intro c hc hne
  exact nontrivial_orthogonal_to_sd hA hdeg (h c hc).2.1 hne

/-- non-vacuity of `select_spec`: the path graph, `dim = 1`, the solver returning the pairs
    `(1, (1,0,-1))` and `(0, sqrt_deg)` in that order: column `0` is selected. -/
example : ∀ c, c < ([1, 0] : List ℝ).length →
    L pathA *ᵥ (fun c => if c = 0 then ![1, 0, -1] else sd pathA) c
      = ([1, 0] : List ℝ).getD c 0 • (fun c => if c = 0 then ![1, 0, -1] else sd pathA) c := by
  intro c hc
  obtain rfl | rfl := Nat.le_one_iff_eq_zero_or_eq_one.1 (Nat.le_of_lt_succ hc)
  · exact pathA_eigvec
  · exact (trivial_eigvec pathA_symm pathA_deg_pos).trans (zero_smul ℝ _).symm

example : selectOrder ([1, 0] : List ℝ) 1 = [0] :=
  -- index `1` (value `0`) is inserted before index `0` (value `1`)
  congrArg (fun l => (List.drop 1 l).take 1)
    (if_pos zero_lt_one : insertBy (fun j => ([1, 0] : List ℝ).getD j 0) 1 [0] = [1, 0])

example : selectOrder ([3, 1, 2] : List ℚ) 2 = [2, 0] := by decide

end Argsort

/-! ## Part 3 — the multi-component assembly -/

section Assemble
open Spectral

theorem assemble_length {β : Type} [Inhabited β] (labels : List Nat) (blocks : Nat → List β) :
    (assemble labels blocks).length = labels.length := by
  rw [assemble, List.length_map, List.length_range]

theorem filter_take_lt {α : Type} {l : List α} {p : α → Bool} {r s : Nat} (hrs : r < s)
    (hs : s ≤ l.length) (hp : p (l[r]'(hrs.trans_le hs)) = true) :
    ((l.take r).filter p).length < ((l.take s).filter p).length := by
  -- taking `l[r]` in adds one, and a longer prefix keeps at least as many
  refine lt_of_lt_of_le ?_ ((List.take_sublist_take_left hrs).filter p).length_le
  rw [List.take_succ_eq_append_getElem (hrs.trans_le hs), List.filter_append,
    List.filter_cons_of_pos hp, List.length_append]
  exact Nat.lt_succ_self _

theorem rankInLabel_eq (labels : List Nat) (r : Nat) (h : r < labels.length) :
    rankInLabel labels r = ((labels.take r).filter (· == labels[r])).length := by
  rw [rankInLabel, ← List.getElem_eq_getD (h := h)]

/-- the row index used inside the block is smaller than the number of rows with that label. -/
theorem rank_lt_count (labels : List Nat) (r : Nat) (h : r < labels.length) :
    rankInLabel labels r < (labels.filter (· == labels[r])).length := by
  have := filter_take_lt (p := (· == labels[r])) h le_rfl (beq_self_eq_true _)
  rwa [List.take_length, ← rankInLabel_eq labels r h] at this

/-- two rows with the same label use different block rows (in increasing order). -/
theorem rank_injective (labels : List Nat) (r s : Nat) (hrs : r < s) (hs : s < labels.length)
    (hl : labels[r] = labels[s]) : rankInLabel labels r < rankInLabel labels s := by
  rw [rankInLabel_eq labels r (hrs.trans hs), rankInLabel_eq labels s hs, hl]
  exact filter_take_lt hrs hs.le (hl ▸ beq_self_eq_true _)

/-- every result row is written from a genuine block row: if each block has as many rows as
    its label occurs, row `r` of the result is row `rankInLabel r` of the block of `labels[r]`
    (never the `default` filler, i.e. no row of the `np.empty` result stays uninitialised). -/
theorem assemble_row {β : Type} [Inhabited β] (labels : List Nat) (blocks : Nat → List β)
    (hblocks : ∀ l ∈ labels, (blocks l).length = (labels.filter (· == l)).length)
    (r : Nat) (h : r < labels.length) :
    ∃ hr : rankInLabel labels r < (blocks labels[r]).length,
      (assemble labels blocks)[r]'(by rw [assemble_length]; exact h)
        = (blocks labels[r])[rankInLabel labels r] := by
  have hr : rankInLabel labels r < (blocks labels[r]).length := by
    rw [hblocks _ (List.getElem_mem h)]; exact rank_lt_count labels r h
  refine ⟨hr, ?_⟩
  unfold assemble
  rw [List.getElem_map, List.getElem_range, ← List.getElem_eq_getD (h := h)]
  exact (List.getElem_eq_getD (h := hr) default).symm

theorem rank_append (labels : List Nat) (x r : Nat) (h : r < labels.length) :
    rankInLabel (labels ++ [x]) r = rankInLabel labels r := by
  rw [rankInLabel, rankInLabel, List.take_append_of_le_length h.le, List.getD_eq_getElem?_getD,
    List.getElem?_append_left h, ← List.getD_eq_getElem?_getD]

theorem rank_last (labels : List Nat) (x : Nat) :
    rankInLabel (labels ++ [x]) labels.length = (labels.filter (· == x)).length := by
  rw [rankInLabel, List.take_left' rfl, List.getD_eq_getElem?_getD,
    List.getElem?_append_right le_rfl, Nat.sub_self]
  rfl

/-- every block row is used: each of the `count l` rows of block `l` is the source of some
    result row (together with `rank_injective`: of exactly one). -/
theorem rank_surjective (labels : List Nat) (l k : Nat)
    (hk : k < (labels.filter (· == l)).length) :
    ∃ r, ∃ h : r < labels.length, labels[r] = l ∧ rankInLabel labels r = k := by
  rw [← List.countP_eq_length_filter] at hk
  -- the `k`-th row labelled `l` (`List.findIdxNth`) has `k` rows labelled `l` before it
  have hr := List.findIdxNth_lt_length_of_lt_countP hk
  have hl : labels[labels.findIdxNth (· == l) k] = l :=
    beq_iff_eq.1 (List.pos_findIdxNth_getElem (h := hr))
  refine ⟨_, hr, hl, ?_⟩
  rw [rankInLabel_eq labels _ hr, hl, ← List.countP_eq_length_filter,
    ← List.countPBefore_eq_countP_take]
  exact List.countPBefore_findIdxNth_of_lt_countP hk

/-- non-vacuity: labels `[0, 1, 0, 1, 1]`, block `0 = [a0, a1]`, block `1 = [b0, b1, b2]`. -/
example : assemble [0, 1, 0, 1, 1] (fun l => if l = 0 then [10, 11] else [20, 21, 22])
    = [10, 20, 11, 21, 22] := by decide +kernel

example : ∀ l ∈ [0, 1, 0, 1, 1],
    ((fun l => if l = 0 then [10, 11] else [20, 21, 22]) l : List Nat).length
      = (([0, 1, 0, 1, 1] : List Nat).filter (· == l)).length := by decide +kernel

example : rankInLabel [0, 1, 0, 1, 1] 4 < (([0, 1, 0, 1, 1] : List Nat).filter (· == 1)).length :=
  rank_lt_count [0, 1, 0, 1, 1] 4 (by decide)

example : rankInLabel [0, 1, 0, 1, 1] 1 < rankInLabel [0, 1, 0, 1, 1] 3 :=
  rank_injective _ 1 3 (by decide) (by decide) (by decide)

end Assemble

end C15
end Umap
