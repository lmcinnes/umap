/-
  C16 / C10 / C18 — indexing with `unique=True`: labels, radii, NaN mask, combination guard.

  Python (`umap_.py`, `fit`):
      index, inverse = np.unique(X, return_index=True, return_inverse=True, axis=0)[1:3]
  the graph is built on `X[index]` (the distinct rows); per-vertex INPUTS are taken as
  `y[index]`; per-vertex RESULTS (embedding rows, radii) are mapped back as `result[inverse]`.

  Model: `index xs` = position in `xs` of the first occurrence of each distinct row (in
  `distinctRows` order), `inverse xs = Pipeline.inverseIndex xs`, `a[idx]` = `Pipeline.expand a idx`.

  Per-vertex inputs go through `index` and per-vertex results through `inverse` (the two halves
  of the `np.unique` contract, `index_inverse`); a vertex mask is applied before the expansion or
  through `inverse`.  Each rule comes with the seeded fault that breaks it as a counterexample.
  The last section counts what a combination guard sees: embedding rows agree, graph vertices
  differ as soon as a row repeats.
-/
import UmapModel.Pipeline
import UmapProps.C05

set_option linter.unusedSectionVars false -- instance binders of fixed statements

namespace Umap
namespace Unique
open Pipeline

variable {β : Type} [BEq β] [LawfulBEq β]

/-- `np.unique(..., return_index=True)`: for each distinct row, the position of its first
    occurrence among the input rows. -/
def index (xs : List β) : List Nat := (distinctRows xs).map (fun x => xs.idxOf x)

/-- `np.unique(..., return_inverse=True)`: for each input row, the number of its vertex. -/
def inverse (xs : List β) : List Nat := inverseIndex xs

/-- "a row repeats": two different positions hold the same row. -/
def Repeated (xs : List β) : Prop :=
  ∃ (i j : Nat) (_ : i < j) (hj : j < xs.length), xs[i] = xs[j]

/-- `r[p] = nan` for a per-vertex Boolean mask `p` (e.g. "vertex is isolated"). -/
def mask {γ : Type} (p : Nat → Bool) (nan : γ) (r : List γ) : List γ :=
  r.mapIdx (fun j v => if p j then nan else v)

theorem nodup_distinctRows (xs : List β) : (distinctRows xs).Nodup := nodup_eraseDups xs

theorem mem_distinctRows (xs : List β) (x : β) : x ∈ distinctRows xs ↔ x ∈ xs :=
  List.mem_eraseDups

theorem distinctRows_subperm (xs : List β) : (distinctRows xs).Subperm xs :=
  List.subperm_of_subset (nodup_distinctRows xs) (fun x hx => (mem_distinctRows xs x).1 hx)

theorem length_distinctRows_le (xs : List β) : (distinctRows xs).length ≤ xs.length :=
  (distinctRows_subperm xs).length_le

theorem length_distinctRows_eq_iff (xs : List β) :
    (distinctRows xs).length = xs.length ↔ xs.Nodup := by
  constructor
  · intro h
    have hp : (distinctRows xs).Perm xs :=
      (distinctRows_subperm xs).perm_of_length_le (le_of_eq h.symm)
    exact hp.nodup_iff.1 (nodup_distinctRows xs)
  · intro h
    have h2 : xs.Subperm (distinctRows xs) :=
      List.subperm_of_subset h (fun x hx => (mem_distinctRows xs x).2 hx)
    exact le_antisymm (length_distinctRows_le xs) h2.length_le

theorem repeated_iff_not_nodup (xs : List β) : Repeated xs ↔ ¬ xs.Nodup := by
  unfold Repeated
  rw [List.nodup_iff_getElem?_ne_getElem?]
  push Not
  constructor
  · rintro ⟨i, j, hij, hj, h⟩
    refine ⟨i, j, hij, hj, ?_⟩
    rw [List.getElem?_eq_getElem (lt_trans hij hj), List.getElem?_eq_getElem hj, h]
  · rintro ⟨i, j, hij, hj, h⟩
    refine ⟨i, j, hij, hj, ?_⟩
    rw [List.getElem?_eq_getElem (lt_trans hij hj), List.getElem?_eq_getElem hj] at h
    exact Option.some.inj h

theorem repeated_iff (xs : List β) : Repeated xs ↔ (distinctRows xs).length < xs.length := by
  rw [repeated_iff_not_nodup, ← length_distinctRows_eq_iff]
  have := length_distinctRows_le xs
  omega

@[simp] theorem length_index (xs : List β) : (index xs).length = (distinctRows xs).length := by
  simp [index]

@[simp] theorem length_inverse (xs : List β) : (inverse xs).length = xs.length := by
  simp [inverse, inverseIndex]

theorem getElem_inverse (xs : List β) (i : Nat) (hi : i < xs.length) :
    (inverse xs)[i]'(by simpa using hi) = (distinctRows xs).idxOf xs[i] := by
  simp [inverse, inverseIndex]

theorem getElem_index (xs : List β) (j : Nat) (hj : j < (distinctRows xs).length) :
    (index xs)[j]'(by simpa using hj) = xs.idxOf (distinctRows xs)[j] := by
  simp [index]

theorem inverse_lt (xs : List β) (i : Nat) (hi : i < xs.length) :
    (inverse xs)[i]'(by simpa using hi) < (distinctRows xs).length := by
  rw [getElem_inverse xs i hi]
  exact List.idxOf_lt_length_of_mem ((mem_distinctRows xs _).2 (List.getElem_mem hi))

theorem index_lt (xs : List β) (j : Nat) (hj : j < (distinctRows xs).length) :
    (index xs)[j]'(by simpa using hj) < xs.length := by
  rw [getElem_index xs j hj]
  exact List.idxOf_lt_length_of_mem ((mem_distinctRows xs _).1 (List.getElem_mem hj))

/-- the vertex of input row `i` holds row `i`'s data: `X[index][inverse[i]] = X[i]`. -/
theorem distinct_inverse (xs : List β) (i : Nat) (hi : i < xs.length) :
    (distinctRows xs)[(inverse xs)[i]'(by simpa using hi)]'(inverse_lt xs i hi) = xs[i] := by
  simp only [getElem_inverse xs i hi]
  exact List.getElem_idxOf _

/-- vertex `j` holds the data of input row `index[j]`: `X[index][j] = X[index[j]]`. -/
theorem xs_index (xs : List β) (j : Nat) (hj : j < (distinctRows xs).length) :
    xs[(index xs)[j]'(by simpa using hj)]'(index_lt xs j hj) = (distinctRows xs)[j] := by
  simp only [getElem_index xs j hj]
  exact List.getElem_idxOf _

/-- `xs[index[inverse[i]]] = xs[i]`. -/
theorem index_inverse_left (xs : List β) (i : Nat) (hi : i < xs.length) :
    xs[(index xs)[(inverse xs)[i]'(by simpa using hi)]'(by simpa using inverse_lt xs i hi)]'
        (index_lt xs _ (inverse_lt xs i hi)) = xs[i] := by
  rw [xs_index xs _ (inverse_lt xs i hi), distinct_inverse xs i hi]

/-- `inverse[index[j]] = j`. -/
theorem index_inverse_right (xs : List β) (j : Nat) (hj : j < (distinctRows xs).length) :
    (inverse xs)[(index xs)[j]'(by simpa using hj)]'(by simpa using index_lt xs j hj) = j := by
  rw [getElem_inverse xs _ (index_lt xs j hj), xs_index xs j hj]
  exact (nodup_distinctRows xs).idxOf_getElem j hj

/-- the two halves of the `np.unique` contract. -/
theorem index_inverse (xs : List β) :
    (∀ (i : Nat) (hi : i < xs.length),
      xs[(index xs)[(inverse xs)[i]'(by simpa using hi)]'(by simpa using inverse_lt xs i hi)]'
        (index_lt xs _ (inverse_lt xs i hi)) = xs[i])
    ∧ (∀ (j : Nat) (hj : j < (distinctRows xs).length),
      (inverse xs)[(index xs)[j]'(by simpa using hj)]'(by simpa using index_lt xs j hj) = j) :=
  ⟨index_inverse_left xs, index_inverse_right xs⟩

/-- `index[j]` is the FIRST occurrence: no earlier input row equals it. -/
theorem index_first (xs : List β) (j : Nat) (hj : j < (distinctRows xs).length) (k : Nat)
    (hk : k < (index xs)[j]'(by simpa using hj)) :
    xs[k]'(lt_trans hk (index_lt xs j hj)) ≠ xs[(index xs)[j]'(by simpa using hj)]'(index_lt xs j hj) := by
  rw [xs_index xs j hj]
  rw [getElem_index xs j hj] at hk
  intro h
  have hf := List.not_of_lt_findIdx (p := (· == (distinctRows xs)[j])) (xs := xs) hk
  simp [h] at hf

theorem inverse_eq_iff (xs : List β) (i i' : Nat) (hi : i < xs.length) (hi' : i' < xs.length) :
    (inverse xs)[i]'(by simpa using hi) = (inverse xs)[i']'(by simpa using hi') ↔ xs[i] = xs[i'] := by
  constructor
  · intro h
    rw [← distinct_inverse xs i hi, ← distinct_inverse xs i' hi']
    simp only [h]
  · intro h
    rw [getElem_inverse xs i hi, getElem_inverse xs i' hi', h]

/-! ### labels: `y[index]` -/

theorem getElem_expand {γ : Type} [Inhabited γ] (a : List γ) (idx : List Nat) (i : Nat)
    (hi : i < idx.length) (h : idx[i] < a.length) :
    (expand a idx)[i]'(by simpa [expand] using hi) = a[idx[i]] := by
  simp only [expand, List.getElem_map]
  rw [List.getD_eq_getElem?_getD, List.getElem?_eq_getElem h, Option.getD_some]

@[simp] theorem length_expand {γ : Type} [Inhabited γ] (a : List γ) (idx : List Nat) :
    (expand a idx).length = idx.length := by simp [expand]

/-- if identical rows carry identical labels, the vertex labels `y[index]` give every input
    row its own label back: `(y[index])[inverse[i]] = y[i]`. -/
theorem labels_aligned {γ : Type} [Inhabited γ] (xs : List β) (y : List γ)
    (hy : y.length = xs.length)
    (hcompat : ∀ (i i' : Nat) (hi : i < xs.length) (hi' : i' < xs.length),
      xs[i] = xs[i'] → y[i]'(hy ▸ hi) = y[i']'(hy ▸ hi'))
    (i : Nat) (hi : i < xs.length) :
    (expand y (index xs))[(inverse xs)[i]'(by simpa using hi)]'
        (by simpa using inverse_lt xs i hi) = y[i]'(hy ▸ hi) := by
  have hv := inverse_lt xs i hi
  have hk := index_lt xs _ hv
  rw [getElem_expand y (index xs) _ (by simpa using hv) (by rw [hy]; exact hk)]
  exact hcompat _ i hk hi (index_inverse_left xs i hi)

/-- `labels_aligned` as one list equation: `y[index][inverse] = y`. -/
theorem labels_roundtrip {γ : Type} [Inhabited γ] (xs : List β) (y : List γ)
    (hy : y.length = xs.length)
    (hcompat : ∀ (i i' : Nat) (hi : i < xs.length) (hi' : i' < xs.length),
      xs[i] = xs[i'] → y[i]'(hy ▸ hi) = y[i']'(hy ▸ hi')) :
    expand (expand y (index xs)) (inverse xs) = y := by
  apply List.ext_getElem
  · simp [hy]
  · intro i h1 h2
    have hi : i < xs.length := hy ▸ h2
    rw [getElem_expand _ (inverse xs) i (by simpa using hi) (by simpa using inverse_lt xs i hi)]
    exact labels_aligned xs y hy hcompat i hi

/-- every vertex carries the label of the row it represents: `(y[index])[j] = y[index[j]]`
    (needs no compatibility hypothesis). -/
theorem labels_vertex {γ : Type} [Inhabited γ] (xs : List β) (y : List γ)
    (hy : y.length = xs.length) (j : Nat) (hj : j < (distinctRows xs).length) :
    (expand y (index xs))[j]'(by simpa using hj)
      = y[(index xs)[j]'(by simpa using hj)]'(hy ▸ index_lt xs j hj) :=
  getElem_expand y (index xs) j (by simpa using hj) (by rw [hy]; exact index_lt xs j hj)

/-- non-vacuity of `labels_aligned`: rows `[5,3,5,7]`, labels `[10,20,10,30]`. -/
example : ([5, 3, 5, 7] : List Nat).length = ([10, 20, 10, 30] : List Nat).length
    ∧ (∀ i i' : Fin 4, ([5, 3, 5, 7] : List Nat)[i] = ([5, 3, 5, 7] : List Nat)[i'] →
        ([10, 20, 10, 30] : List Nat)[i] = ([10, 20, 10, 30] : List Nat)[i'])
    ∧ index ([5, 3, 5, 7] : List Nat) = [0, 1, 3]
    ∧ inverse ([5, 3, 5, 7] : List Nat) = [0, 1, 0, 2]
    ∧ expand ([10, 20, 10, 30] : List Nat) (index ([5, 3, 5, 7] : List Nat)) = [10, 20, 30]
    ∧ expand (expand ([10, 20, 10, 30] : List Nat) (index ([5, 3, 5, 7] : List Nat)))
        (inverse ([5, 3, 5, 7] : List Nat)) = [10, 20, 10, 30] := by
  decide +kernel

/-- the seeded fault `y_ = y[inverse]` (a list of length `xs.length`, read at the vertex
    positions `j < n_distinct`): for rows `[5,3,5,7]` with compatible labels `[10,20,10,30]`,
    vertex `2` represents input row `index[2] = 3` (label `30`) but is handed label `10`. -/
theorem labels_misaligned_counterexample :
    let xs : List Nat := [5, 3, 5, 7]
    let y : List Nat := [10, 20, 10, 30]
    y.length = xs.length
    ∧ (∀ i i' : Fin 4, xs[i] = xs[i'] → y[i] = y[i'])
    ∧ (distinctRows xs).length = 3
    ∧ (index xs)[2]! = 3
    ∧ (expand y (inverse xs)).length = xs.length
    ∧ (expand y (inverse xs))[2]! = 10
    ∧ y[(index xs)[2]!]! = 30
    ∧ (expand y (inverse xs))[2]! ≠ y[(index xs)[2]!]!
    ∧ (expand y (index xs))[2]! = y[(index xs)[2]!]! := by
  decide +kernel

/-! ### results: `r[inverse]` -/

/-- `r[inverse]` has one entry per input row, input row `i` gets the result of its vertex,
    and identical rows get the identical result. -/
theorem results_per_input_row {γ : Type} [Inhabited γ] (xs : List β) (r : List γ) :
    (expand r (inverse xs)).length = xs.length
    ∧ (∀ (i : Nat) (hi : i < xs.length), r.length = (distinctRows xs).length →
        (expand r (inverse xs))[i]'(by simpa using hi)
          = r.getD ((inverse xs)[i]'(by simpa using hi)) default
        ∧ ∃ h : (inverse xs)[i]'(by simpa using hi) < r.length,
            (expand r (inverse xs))[i]'(by simpa using hi) = r[(inverse xs)[i]'(by simpa using hi)])
    ∧ (∀ (i i' : Nat) (hi : i < xs.length) (hi' : i' < xs.length), xs[i] = xs[i'] →
        (expand r (inverse xs))[i]'(by simpa using hi)
          = (expand r (inverse xs))[i']'(by simpa using hi')) := by
  refine ⟨by simp, ?_, ?_⟩
  · intro i hi hr
    have h : (inverse xs)[i]'(by simpa using hi) < r.length := hr ▸ inverse_lt xs i hi
    refine ⟨by simp [expand], h, ?_⟩
    exact getElem_expand r (inverse xs) i (by simpa using hi) h
  · intro i i' hi hi' h
    have := (inverse_eq_iff xs i i' hi hi').2 h
    simp only [expand, List.getElem_map, this]

/-- without `[inverse]` (seeded fault: `rad_orig_ = aux_data["rad_orig"]`) the per-vertex
    result has the wrong length as soon as a row repeats — and only then. -/
theorem unmapped_results_wrong_length {γ : Type} (xs : List β) (r : List γ)
    (hr : r.length = (distinctRows xs).length) :
    r.length ≤ xs.length ∧ (r.length < xs.length ↔ Repeated xs)
      ∧ (r.length = xs.length ↔ xs.Nodup) := by
  rw [hr]
  exact ⟨length_distinctRows_le xs, (repeated_iff xs).symm, length_distinctRows_eq_iff xs⟩

/-- non-vacuity: `[5,5,3,7]` has a repeated row; three radii for four rows. -/
example : Repeated ([5, 5, 3, 7] : List Nat) := ⟨0, 1, by decide, by decide, by decide⟩
example : (distinctRows ([5, 5, 3, 7] : List Nat)).length = 3
    ∧ (expand ([100, 200, 300] : List Nat) (inverse ([5, 5, 3, 7] : List Nat))) = [100, 100, 200, 300] := by
  decide +kernel

/-! ### the NaN mask of isolated vertices -/

@[simp] theorem length_mask {γ : Type} (p : Nat → Bool) (nan : γ) (r : List γ) :
    (mask p nan r).length = r.length := by simp [mask]

/-- masking the per-vertex result BEFORE the expansion marks exactly the input rows whose
    vertex satisfies `p`. -/
theorem mask_positions {γ : Type} [Inhabited γ] (xs : List β) (p : Nat → Bool) (nan : γ)
    (r : List γ) (hr : r.length = (distinctRows xs).length) (i : Nat) (hi : i < xs.length) :
    (expand (mask p nan r) (inverse xs))[i]'(by simpa using hi)
      = if p ((inverse xs)[i]'(by simpa using hi)) then nan
        else r[(inverse xs)[i]'(by simpa using hi)]'(hr ▸ inverse_lt xs i hi) := by
  have h : (inverse xs)[i]'(by simpa using hi) < r.length := hr ▸ inverse_lt xs i hi
  rw [getElem_expand (mask p nan r) (inverse xs) i (by simpa using hi) (by simpa using h)]
  simp [mask]

/-- `mask_positions` the other way round: expand first, then mask THROUGH `inverse` (input row
    `i` is marked iff `p (inverse[i])`). -/
theorem mask_through_inverse {γ : Type} [Inhabited γ] (xs : List β) (p : Nat → Bool) (nan : γ)
    (r : List γ) (hr : r.length = (distinctRows xs).length) :
    expand (mask p nan r) (inverse xs)
      = mask (fun i => p ((inverse xs).getD i 0)) nan (expand r (inverse xs)) := by
  apply List.ext_getElem
  · simp
  · intro i h1 h2
    have hi : i < xs.length := by simpa using h1
    have h : (inverse xs)[i]'(by simpa using hi) < r.length := hr ▸ inverse_lt xs i hi
    rw [mask_positions xs p nan r hr i hi]
    have hd : (inverse xs).getD i 0 = (inverse xs)[i]'(by simpa using hi) := by
      rw [List.getD_eq_getElem?_getD, List.getElem?_eq_getElem (by simpa using hi),
        Option.getD_some]
    simp only [mask, List.getElem_mapIdx, hd]
    rw [getElem_expand r (inverse xs) i (by simpa using hi) h]

/-- the seeded fault (mask applied AFTER `[inverse]`, positions still in vertex numbering):
    rows `[5,5,3,7]`, vertex `1` (the row `3`) isolated, results `[100,200,300]`, `nan := 0`.
    Correct: `[100,100,nan,300]`.  Faulty: `[100,nan,200,300]` — input row `1` (a copy of the
    connected row `5`) is blanked and the isolated input row `2` keeps coordinates. -/
theorem mask_after_expansion_counterexample :
    let xs : List Nat := [5, 5, 3, 7]
    let r : List Nat := [100, 200, 300]
    let p : Nat → Bool := fun j => j == 1
    r.length = (distinctRows xs).length
    ∧ inverse xs = [0, 0, 1, 2]
    ∧ expand (mask p 0 r) (inverse xs) = [100, 100, 0, 300]
    ∧ mask p 0 (expand r (inverse xs)) = [100, 0, 200, 300]
    ∧ mask p 0 (expand r (inverse xs)) ≠ expand (mask p 0 r) (inverse xs)
    ∧ p ((inverse xs)[1]!) = false ∧ (mask p 0 (expand r (inverse xs)))[1]! = 0
    ∧ p ((inverse xs)[2]!) = true ∧ (mask p 0 (expand r (inverse xs)))[2]! ≠ 0 := by
  decide +kernel

/-! ### the guard of `__mul__` / `__add__` / `__sub__` -/

/-- the two shapes a combination guard can look at. -/
structure Shapes where
  graphVertices : Nat
  embeddingRows : Nat
deriving DecidableEq, Repr

/-- shapes of a model fitted on `xs`: with `unique=True` the graph lives on the distinct rows and
    the embedding (one row per vertex, here a placeholder list) is expanded through `inverse`. -/
def fitShapes (unique : Bool) (xs : List β) : Shapes :=
  if unique then
    { graphVertices := (distinctRows xs).length
      embeddingRows := (expand (List.range (distinctRows xs).length) (inverse xs)).length }
  else
    { graphVertices := xs.length, embeddingRows := xs.length }

/-- the guard in umap_.py: `self.graph_.shape[0] != other.graph_.shape[0]` → reject. -/
def guardGraph (a b : Shapes) : Bool := a.graphVertices == b.graphVertices
/-- the seeded fault: the guard compares `embedding_.shape[0]`. -/
def guardEmbedding (a b : Shapes) : Bool := a.embeddingRows == b.embeddingRows

/-- two models over the same input rows, one of them with `unique=True`: the embedding row
    counts always agree; the graph vertex counts differ exactly when a row repeats.  So the
    embedding guard accepts operands whose graphs cannot be combined, the graph guard does not. -/
theorem guard_counts (xs : List β) :
    (fitShapes true xs).embeddingRows = (fitShapes false xs).embeddingRows
    ∧ guardEmbedding (fitShapes true xs) (fitShapes false xs) = true
    ∧ (Repeated xs ↔ (fitShapes true xs).graphVertices < (fitShapes false xs).graphVertices)
    ∧ (Repeated xs ↔ guardGraph (fitShapes true xs) (fitShapes false xs) = false) := by
  have hle := length_distinctRows_le xs
  have hrep := repeated_iff xs
  refine ⟨by simp [fitShapes], by simp [fitShapes, guardEmbedding], ?_, ?_⟩
  · simpa [fitShapes] using hrep
  · simp only [fitShapes, guardGraph, if_true, Bool.false_eq_true, if_false, beq_eq_false_iff_ne,
      ne_eq, hrep]
    omega

/-- the implication form: a repeated row makes the embedding guard accept what the graph guard
    rejects. -/
theorem guard_counts_of_repeated (xs : List β) (h : Repeated xs) :
    guardEmbedding (fitShapes true xs) (fitShapes false xs) = true
    ∧ guardGraph (fitShapes true xs) (fitShapes false xs) = false
    ∧ (fitShapes true xs).graphVertices ≠ (fitShapes false xs).graphVertices := by
  obtain ⟨_, h2, h3, h4⟩ := guard_counts xs
  exact ⟨h2, h4.1 h, Nat.ne_of_lt (h3.1 h)⟩

/-- concrete instance: rows `[5,5,3,7]` — 4 embedding rows on both sides, 3 vs 4 vertices. -/
theorem guard_counts_instance :
    fitShapes true ([5, 5, 3, 7] : List Nat) = ⟨3, 4⟩
    ∧ fitShapes false ([5, 5, 3, 7] : List Nat) = ⟨4, 4⟩
    ∧ guardEmbedding (fitShapes true ([5, 5, 3, 7] : List Nat)) (fitShapes false [5, 5, 3, 7]) = true
    ∧ guardGraph (fitShapes true ([5, 5, 3, 7] : List Nat)) (fitShapes false [5, 5, 3, 7]) = false := by
  decide +kernel

/-- without a repeated row the two guards agree (the fault is invisible on duplicate-free data). -/
example : guardGraph (fitShapes true ([5, 3, 7] : List Nat)) (fitShapes false [5, 3, 7]) = true := by
  decide +kernel

end Unique
end Umap
